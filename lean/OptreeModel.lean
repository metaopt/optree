import OptreeModel.Model.Basic
import OptreeModel.Model.Sort
import OptreeModel.Model.Flatten
import OptreeModel.Model.Unflatten
import OptreeModel.Model.Inspect
import OptreeModel.Model.Compare
import OptreeModel.Model.Algebra
import OptreeModel.Model.STree
import OptreeModel.Model.Serial
import OptreeModel.Model.Ops
import OptreeModel.Model.PrefixErrors
import OptreeModel.Model.OrderSM
import OptreeModel.Model.RegSM
import OptreeModel.Model.Twins
import OptreeModel.Model.Ravel
import OptreeModel.Model.Dataclass
import OptreeModel.Model.Alias
import OptreeModel.Model.Fault
import OptreeModel.Model.Memory
import OptreeModel.Model.Threads
import OptreeModel.Model.Sexp
import OptreeModel.Model.Eval
import OptreeModel.Generated.Hash
import OptreeModel.Generated.NodeFields
import OptreeModel.Generated.Twins
import OptreeModel.Generated.Fresh
import OptreeModel.Generated.Swallow
import OptreeModel.Generated.Access
import OptreeModel.Generated.Locks
import OptreeModel.Lemmas.Control
import OptreeModel.Lemmas.Prog
import OptreeModel.Lemmas.Sort
import OptreeModel.Lemmas.TreeMap
import OptreeModel.Lemmas.Dict
import OptreeModel.Lemmas.View
import OptreeModel.Lemmas.FlattenView
import OptreeModel.Lemmas.Roundtrip
import OptreeModel.Lemmas.Leaves
import OptreeModel.Lemmas.Agree
import OptreeModel.Lemmas.EncEq
import OptreeModel.Lemmas.Enc
import OptreeModel.Lemmas.Compat
import OptreeModel.Lemmas.PrefixOrder
import OptreeModel.Lemmas.EncPrefix
import OptreeModel.Lemmas.EncFlatten
import OptreeModel.Lemmas.EncInspect
import OptreeModel.Lemmas.MatchNode
import OptreeModel.Lemmas.EncUpTo
import OptreeModel.Lemmas.ShapeOf
import OptreeModel.Lemmas.UpToPrefix
import OptreeModel.Lemmas.EncPaths
import OptreeModel.Lemmas.EncAccessors
import OptreeModel.Lemmas.PrefixErrors
import OptreeModel.Lemmas.EncBroadcast
import OptreeModel.Lemmas.UpToAlign
import OptreeModel.Lemmas.EncTransform
import OptreeModel.Lemmas.LubOrder
import OptreeModel.Lemmas.Replace
import OptreeModel.Lemmas.Graft
import OptreeModel.Lemmas.GraftBuild
import OptreeModel.Lemmas.RegSM
import OptreeModel.Properties.C01
import OptreeModel.Properties.C02
import OptreeModel.Properties.C03
import OptreeModel.Properties.C04
import OptreeModel.Properties.C05
import OptreeModel.Properties.C06
import OptreeModel.Properties.C07
import OptreeModel.Properties.C08
import OptreeModel.Properties.C09
import OptreeModel.Properties.C10
import OptreeModel.Properties.C11
import OptreeModel.Properties.C12
import OptreeModel.Properties.C13
import OptreeModel.Properties.C14
import OptreeModel.Properties.C15
import OptreeModel.Properties.C16
import OptreeModel.Properties.C17
import OptreeModel.Properties.C18
import OptreeModel.Properties.C19
import OptreeModel.Properties.C20
