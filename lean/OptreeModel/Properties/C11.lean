/-
  C11  Pickling a treespec preserves it exactly.

  `toPickle` / `fromPickle` model ToPickleable / FromPickleable (serialization.cpp:291-419); the byte
  level (pickle protocols, copy / deepcopy plumbing, a second interpreter) is not modelled and is
  exercised by the implementation oracle only.  `Generated.*` is regenerated from the source on
  every run (translator `node_fields`).
-/
import OptreeModel.Model.Serial
import OptreeModel.Lemmas.Control
import OptreeModel.Lemmas.FlattenView
import OptreeModel.Generated.NodeFields

namespace Optree

/-- **Generated obligation.**  Every member of the node record is exported by `ToPickleable` … -/
theorem C11_covers_all_fields_export :
    ∀ f ∈ Generated.nodeFields, f ∈ Generated.pickledNodeFields := by
  simp [Generated.nodeFields, Generated.pickledNodeFields]

/-- … and re-imported by `FromPickleable`. -/
theorem C11_covers_all_fields_import :
    ∀ f ∈ Generated.nodeFields, f ∈ Generated.unpickledNodeFields := by
  simp [Generated.nodeFields, Generated.unpickledNodeFields]

/-- **Generated obligation.**  The node record of the source has exactly the members of the model's
`Node`, and the treespec-level state is (nodes, none_is_leaf, namespace). -/
theorem C11_model_has_the_same_fields :
    Generated.nodeFields = ["kind", "arity", "node_data", "node_entries", "custom", "num_leaves",
                            "num_nodes", "original_keys"] ∧
    Generated.pickledSpecFields = ["nodes", "none_is_leaf", "namespace"] := ⟨rfl, rfl⟩

/-- **Generated obligation.**  The kind numbers stored in pickles are the model's. -/
theorem C11_kind_numbering :
    Generated.kindNames = ["Custom", "Leaf", "None", "Tuple", "List", "Dict", "NamedTuple",
                           "OrderedDict", "DefaultDict", "Deque", "StructSequence"] := rfl

theorem C11_kind_roundtrip (k : Kind) : Kind.ofNat? k.toNat = some k := by cases k <;> rfl

/-- a node record whose fields fit its kind (what every engine operation produces; `sobj`, at the end of this
file, proves it of the records `flatten` makes) -/
def Node.shapeOk (n : Node) : Bool :=
  (match n.kind, n.data with
   | .leaf, .none | .none, .none | .tuple, .none | .list, .none => true
   | .dict, .keys _ | .ordereddict, .keys _ => true
   | .namedtuple, .cls _ | .structseq, .cls _ => true
   | .defaultdict, _ | .deque, _ | .custom, _ => true
   | _, _ => false) &&
  (match n.originalKeys with
   | Option.none => !(n.kind == .dict || n.kind == .defaultdict)
   | some _ => n.kind == .dict || n.kind == .defaultdict) &&
  (if n.kind == .custom then n.custom.isSome else n.entries.isNone && n.custom.isNone)

/-- the registrations recorded in the treespec are the ones the loading registry resolves the
recorded types to, in the recorded namespace -/
def Resolves (reg : Registry) (ns : String) (n : Node) : Prop :=
  ∀ r, n.custom = some r → reg.lookup ns r.clsKind r.cls = some r

theorem fromPickleNode_roundtrip (reg : Registry) (ns : String) (n : Node) (hs : n.shapeOk = true)
    (hr : Resolves reg ns n) :
    fromPickleNode reg ns
      { kind := n.kind.toNat, arity := n.arity, data := n.data, entries := n.entries,
        customType := n.custom.map fun r => (r.clsKind, r.cls), numLeaves := n.numLeaves,
        numNodes := n.numNodes, originalKeys := n.originalKeys } = .ok n := by
  obtain ⟨kind, arity, data, entries, custom, nl, nn, okeys⟩ := n
  simp only [Node.shapeOk, Bool.and_eq_true] at hs
  obtain ⟨⟨h1, h2⟩, h3⟩ := hs
  rw [fromPickleNode, C11_kind_roundtrip]
  -- `shapeOk` is the conjunction of the loader's three checks (its `match`es and the loader's are
  -- different constants that unfold to the same term, so `h1`, `h2` are given to `guard_pass`, not to `rw`)
  refine (guard_pass h2 _ _).trans ((guard_pass h1 _ _).trans ?_)
  by_cases hk : (kind == Kind.custom) = true
  · rw [if_pos hk] at h3 ⊢
    obtain ⟨r, rfl⟩ := Option.isSome_iff_exists.1 h3
    simp only [Option.map_some, hr r rfl]
  · rw [if_neg hk] at h3 ⊢
    simp only [Bool.and_eq_true, Option.isNone_iff_eq_none] at h3
    obtain ⟨rfl, rfl⟩ := h3
    rfl

/-- **Round trip.**  Unpickling a pickled treespec in a process whose registry resolves the recorded
custom types to the recorded registrations gives back exactly the same treespec — every field of
every node, `none_is_leaf` and the namespace — hence the same `==`, hash input, repr, paths,
accessors, entries, children and unflatten behaviour (all of which are functions of the `Spec`). -/
theorem C11_roundtrip (reg : Registry) (sp : Spec) (hsane : sp.sane = true)
    (hshape : ∀ n ∈ sp.nodes, n.shapeOk = true) (hres : ∀ n ∈ sp.nodes, Resolves reg sp.ns n)
    (p : Pickled) (hp : toPickle sp = .ok p) : fromPickle reg p = .ok sp := by
  unfold toPickle at hp
  simp only [hsane, Bool.not_true, Bool.false_eq_true, if_false, Except.ok.injEq] at hp
  subst hp
  unfold fromPickle
  simp only
  rw [mapM_map_except_ok fun n hn => fromPickleNode_roundtrip reg sp.ns n (hshape n hn) (hres n hn)]
  simp [hsane]

/-- **Missing registration.**  If a custom type recorded in the pickle is not registered in the
recorded namespace of the loading process, loading raises instead of returning a treespec. -/
theorem C11_missing_registration (reg : Registry) (p : Pickled) (pn : PNode) (hmem : pn ∈ p.nodes)
    (hk : pn.kind = Kind.custom.toNat) (ck : Nat) (cls : TypeId)
    (hty : pn.customType = some (ck, cls)) (hmiss : reg.lookup p.ns ck cls = Option.none) :
    ∃ e, fromPickle reg p = .error e := by
  have hnode : ∃ e, fromPickleNode reg p.ns pn = .error e := by
    rw [fromPickleNode, hk, C11_kind_roundtrip, hty]
    simp only [hmiss]
    exact ite_error_raises (ite_error_raises ⟨_, rfl⟩)
  obtain ⟨e, he⟩ := mapM_except_error_of_mem _ _ _ hmem hnode
  exact ⟨e, by rw [fromPickle, he]⟩

/-! ### non-vacuity -/

def C11_demoReg : Registry :=
  { global := [(0, 0, { rid := 1, cls := 0, clsKind := 0, entryKind := .auto, mode := .named })], named := [] }

def C11_demoSpec : Spec :=
  { nodes := [Node.leaf,
              { kind := .dict, arity := 1, data := .keys [.str "a"], entries := Option.none,
                custom := Option.none, numLeaves := 1, numNodes := 2, originalKeys := some [.str "a"] },
              { kind := .custom, arity := 1, data := .md (some (.int 3)), entries := some [.str "c0"],
                custom := some { rid := 1, cls := 0, clsKind := 0, entryKind := .auto, mode := .named },
                numLeaves := 1, numNodes := 3, originalKeys := Option.none }],
    noneIsLeaf := false, ns := "" }

example : C11_demoSpec.sane = true ∧ C11_demoSpec.nodes.all Node.shapeOk = true := by decide

example : (match toPickle C11_demoSpec with
    | .ok p => (match fromPickle C11_demoReg p with | .ok s => decide (s = C11_demoSpec) | _ => false)
    | _ => false) = true := by decide

example : (match toPickle C11_demoSpec with
    | .ok p => (match fromPickle Registry.empty p with | .error .runtime => true | _ => false)
    | _ => false) = true := by decide

/-! ### the records `flatten` writes fit their kinds -/

def AllShapeOk (out : FlatOut) : Prop := ∀ n ∈ out.nodes, n.shapeOk = true

theorem leafOut_shape (x : PyObj) : AllShapeOk (leafOut x) := by
  intro n hn; simp [leafOut] at hn; subst hn; decide

theorem seqOuts_shape {f : PyObj → Except Err FlatOut} {cs : List PyObj} {b : FlatOut}
    (ih : ∀ c ∈ cs, ∀ o, f c = .ok o → AllShapeOk o) (hb : seqOuts (cs.map f) = .ok b) : AllShapeOk b :=
  seqOuts_induct (Q := fun _ b => AllShapeOk b) (fun _ hn => nomatch hn)
    (fun _ _ _ _ h1 h2 n hn => (List.mem_append.mp hn).elim (h1 n) (h2 n)) ih hb

theorem close_shape {body : FlatOut} (hb : AllShapeOk body) (kind : Kind) (arity : Nat) (data : NodeData)
    (entries : Option (List Key)) (custom : Option Reg) (okeys : Option (List Key)) (fc : Bool)
    (hn : ∀ nl nn, (Node.mk kind arity data entries custom nl nn okeys).shapeOk = true) :
    AllShapeOk (body.close kind arity data entries custom okeys fc) := by
  intro n hmem
  rcases List.mem_append.mp hmem with h | h
  · exact hb n h
  · cases List.mem_singleton.mp h; exact hn _ _

theorem PyObj.view_shapeOk (cfg : Cfg) (s : Bool) (x : PyObj) :
    match x.view cfg s with
    | .node k data ok _ => ∀ arity nl nn, (Node.mk k arity data Option.none Option.none nl nn ok).shapeOk = true
    | _ => True := by
  cases x <;> simp only [PyObj.view]
  case none => cases cfg.noneIsLeaf <;> first | trivial | exact fun _ _ _ => rfl
  case ntuple cls xs => cases cfg.reg.lookup cfg.ns 1 cls <;> first | trivial | exact fun _ _ _ => rfl
  case sseq cls xs => cases cfg.reg.lookup cfg.ns 2 cls <;> first | trivial | exact fun _ _ _ => rfl
  case user cls md q xs => cases cfg.reg.lookup cfg.ns 0 cls <;> trivial
  all_goals exact fun _ _ _ => rfl

def Sobj (cfg : Cfg) (s : Bool) (t : PyObj) : Prop :=
  ∀ d out, flattenGo cfg s d t = .ok out → AllShapeOk out

/-- Every record `flatten` writes passes `Node.shapeOk` — any tree, predicate and registry, flatten functions that
misbehave included: what `C11_roundtrip` asks of a treespec holds of every treespec made by `flatten`. -/
theorem sobj (cfg : Cfg) (s : Bool) : ∀ t : PyObj, Sobj cfg s t := by
  intro t
  induction t using PyObj.view_induct cfg s with | _ t ih
  intro d out h
  obtain ⟨-, ⟨-, rfl⟩ | ⟨-, h⟩⟩ := flattenGo_ok h
  · exact leafOut_shape t
  have hk := PyObj.view_shapeOk cfg s t
  cases hv : t.view cfg s <;> simp only [hv, View.kids] at h ih hk
  case leaf => cases h; exact leafOut_shape t
  case node k data ok cs =>
    obtain ⟨b, hb, rfl⟩ := closeSeq_ok h
    exact close_shape (seqOuts_shape (fun c hc => ih c hc (d + 1)) hb) _ _ _ _ _ _ _ (hk _)
  case custom reg md q cs =>
    obtain ⟨b, entries, hb, rfl⟩ := customFlatten_ok h
    exact close_shape (seqOuts_shape (fun c hc => ih c hc (d + 1)) hb) _ _ _ _ _ _ _
      (by simp [Node.shapeOk])

theorem skvs (cfg : Cfg) (s : Bool) : ∀ kvs : List (Key × PyObj), ∀ p ∈ kvs, Sobj cfg s p.2 :=
  fun _ p _ => sobj cfg s p.2

end Optree
