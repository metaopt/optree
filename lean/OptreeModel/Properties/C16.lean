/-
  C16  No input can make the extension touch invalid memory or overflow the stack.
-/
import OptreeModel.Model.Memory
import OptreeModel.Generated.Access
import OptreeModel.Lemmas.Agree

namespace Optree

/-! ### loops over user containers with re-entrant callbacks -/

/-- **A safe loop never faults**, whatever the callbacks do to the container (any adversary, any
captured length, any current length): an immutable or privately copied container keeps its size, and
a checked accessor turns an out-of-range index into an exception. -/
theorem C16_loops_safe (d : LoopDesc) (h : d.safe = true) (adv : Nat → Adv) (n : Nat) :
    ∀ todo i len, (d.immutable = true ∨ d.privateCopy = true ∨ d.callback = false → i + todo ≤ len) →
      loopRun d adv n todo i len ≠ .fault := by
  -- a safe loop checks its accesses or runs over a container whose size is fixed
  have hsafe : d.checked = true ∨ (d.immutable = true ∨ d.privateCopy = true ∨ d.callback = false) := by
    simp only [LoopDesc.safe, Bool.or_eq_true, Bool.not_eq_true'] at h
    rcases h with ((h | h) | h) | h
    · exact .inr (.inl h)
    · exact .inr (.inr (.inl h))
    · exact .inl h
    · exact .inr (.inr (.inr h))
  intro todo
  induction todo with
  | zero => intro i len _; simp [loopRun]
  | succ t ih =>
    intro i len hlen
    unfold loopRun
    split
    · refine ih _ _ fun hfix => ?_
      have hsame : (if (d.callback && !d.immutable && !d.privateCopy) = true then (adv i).apply len else len) = len := by
        rcases hfix with h1 | h1 | h1 <;> simp [h1]
      have := hlen hfix
      rw [hsame]; omega
    · -- out of range: only a loop with a checked accessor gets here
      rcases hsafe with hc | hfix
      · simp [hc]
      · have := hlen hfix
        omega

/-- the loop as the C++ writes it: the length is captured first, `n = len` -/
theorem C16_loops_safe' (d : LoopDesc) (h : d.safe = true) (adv : Nat → Adv) (n : Nat) :
    loopRun d adv n n 0 n ≠ .fault :=
  C16_loops_safe d h adv n n 0 n (fun _ => by omega)

/-- **the converse**: an unchecked access to a shared mutable container inside a loop that calls
back faults under the adversary that clears the container at the first callback (that adversary is the
replay) -/
theorem C16_unsafe_loop_faults (d : LoopDesc) (h : d.safe = false) (n : Nat) (hn : n ≥ 2) :
    loopRun d (fun _ => .clear) n n 0 n = .fault := by
  simp only [LoopDesc.safe, Bool.or_eq_false_iff, Bool.not_eq_false'] at h
  obtain ⟨⟨⟨h1, h2⟩, h3⟩, h4⟩ := h
  obtain ⟨m, rfl⟩ : ∃ m, n = m + 2 := ⟨n - 2, by omega⟩
  simp [loopRun, h1, h2, h3, h4, Adv.apply]

/-! ### native recursion -/

/-- a guarded walker never exhausts a stack that has room for `limit + 2` frames -/
theorem C16_guarded_walk_safe (limit cap : Nat) (h : limit + 1 < cap) :
    ∀ remaining d, d ≤ limit + 1 → walk true limit cap remaining d ≠ .fault := by
  intro remaining
  induction remaining with
  | zero =>
    intro d hd
    rw [walk, if_neg (by omega)]
    split <;> nofun
  | succ r ih =>
    intro d hd
    rw [walk, if_neg (by omega)]
    split
    · nofun
    · rename_i hg
      exact ih (d + 1) (by simpa using hg)

theorem walk_unguarded (limit cap : Nat) :
    ∀ remaining d, cap ≤ d + remaining → walk false limit cap remaining d = .fault := by
  intro remaining
  induction remaining with
  | zero => exact fun d (h : d ≥ cap) => by rw [walk, if_pos h]
  | succ r ih =>
    intro d h
    rw [walk]
    split
    · rfl
    · exact ih (d + 1) (by omega)

/-- an unguarded walker overflows on a treespec as deep as the stack (reachable: `compose` builds treespecs of
any depth) -/
theorem C16_unguarded_walk_faults (limit cap : Nat) :
    ∀ d, d ≤ cap → walk false limit cap (cap - d) d = .fault :=
  fun d hd => walk_unguarded limit cap (cap - d) d (by omega)

/-! ### the entries of a custom node in `FlattenIntoWithPathImpl`: one unchecked read per child -/

theorem entriesLoop_guarded (arity : Nat) : ∀ (n idx : Nat), entriesLoop true arity n idx ≠ .fault
  | 0, idx => by unfold entriesLoop; split <;> simp
  | k + 1, idx => by
      unfold entriesLoop
      by_cases hi : idx ≥ arity
      · simp [hi]
      · simp only [hi, if_false]
        exact entriesLoop_guarded arity k (idx + 1)

theorem entriesLoop_unguarded (arity : Nat) : ∀ (n idx : Nat), arity - idx < n →
    entriesLoop false arity n idx = .fault
  | 0, idx, h => by omega
  | k + 1, idx, h => by
      unfold entriesLoop
      by_cases hi : idx ≥ arity
      · simp [hi]
      · simp only [hi, if_false]
        exact entriesLoop_unguarded arity k (idx + 1) (by omega)

/-- the counter-indexed read of the entries tuple: with the bound check no number of children can make
it read outside the tuple … -/
theorem C16_entries_loop_safe (arity : Nat) : ∀ (n idx : Nat), idx ≤ arity →
    entriesLoop true arity n idx ≠ .fault :=
  fun n idx _ => entriesLoop_guarded arity n idx

/-- … without it every surplus child does (the hypothesis `idx ≤ arity` is not used) -/
theorem C16_entries_loop_unguarded_faults (arity : Nat) : ∀ (n idx : Nat), idx ≤ arity →
    arity - idx < n → entriesLoop false arity n idx = .fault :=
  fun n idx _ => entriesLoop_unguarded arity n idx

example : entriesLoop true 3 5 0 = .raised .runtime ∧ entriesLoop false 3 5 0 = .fault ∧
    entriesLoop true 3 3 0 = .done := by decide

/-! ### obligations regenerated from the source on every run -/

/-- every item access on a user container in flatten.cpp / traversal.cpp / constructor.cpp is safe on
the code path of the running Python version -/
theorem C16_access_sites_safe : Generated.accessSites.all (·.2.safe) = true := rfl

theorem C16_access_sites_found : Generated.accessSites.length ≥ 30 := by decide

/-- every unchecked item access has an index that is a literal, a `for` variable running over the
container's own size, or a counter checked against the bound before the read -/
theorem C16_index_sites_bounded :
    Generated.indexSites.all (fun s => s.2.2 || s.2.1 != "none") = true ∧
    (Generated.indexSites.filter (fun s => s.2.1 == "guard")).map (·.1) =
      ["src/treespec/flatten.cpp:TupleGetItem(node.node_entries)#1"] := by
  -- dozens of string comparisons: `decide` alone evaluates them a second time in the elaborator
  decide +kernel

/-- every self-recursive walker has the depth guard -/
theorem C16_recursive_walkers_guarded :
    Generated.recursiveWalkers.all (·.2) = true ∧
    Generated.recursiveWalkers.map (·.1) =
      ["flatten.cpp:FlattenIntoImpl", "flatten.cpp:FlattenIntoWithPathImpl", "treespec.cpp:AccessorsImpl",
       "treespec.cpp:BroadcastToCommonSuffixImpl", "treespec.cpp:PathsImpl"] := ⟨rfl, rfl⟩

/-- flatten, flatten-with-path and the iterator compare the depth with the limit in the same way, and
the model's `maxDepth` default is the constant of the source -/
theorem C16_same_guard :
    Generated.depthGuards = ["depth>MAX_RECURSION_DEPTH", "depth>MAX_RECURSION_DEPTH", "depth>MAX_RECURSION_DEPTH"] ∧
    Generated.maxDepthConstants.head? = some ({} : Cfg).maxDepth := ⟨rfl, rfl⟩

/-! ### `flatten` raises RecursionError exactly above the depth limit, and `flatten_with_path` at the same depth -/

mutual
/-- number of levels `flatten` descends below a node: 0 for leaves, `None`, unregistered objects and
empty containers -/
def PyObj.height (cfg : Cfg) : PyObj → Nat
  | .leaf _ _ => 0
  | .none => 0
  | .tuple xs => PyObj.heightList cfg xs
  | .list xs => PyObj.heightList cfg xs
  | .dict kvs => PyObj.heightKVs cfg kvs
  | .odict kvs => PyObj.heightKVs cfg kvs
  | .ddict _ kvs => PyObj.heightKVs cfg kvs
  | .deque _ xs => PyObj.heightList cfg xs
  | .ntuple _ xs => PyObj.heightList cfg xs
  | .sseq _ xs => PyObj.heightList cfg xs
  | .user cls _ _ xs =>
      match cfg.reg.lookup cfg.ns 0 cls with
      | some _ => PyObj.heightList cfg xs
      | Option.none => 0
def PyObj.heightList (cfg : Cfg) : List PyObj → Nat
  | [] => 0
  | x :: xs => max (1 + PyObj.height cfg x) (PyObj.heightList cfg xs)
def PyObj.heightKVs (cfg : Cfg) : List (Key × PyObj) → Nat
  | [] => 0
  | (_, x) :: xs => max (1 + PyObj.height cfg x) (PyObj.heightKVs cfg xs)
end

def DepthOK (cfg : Cfg) (s : Bool) (t : PyObj) : Prop :=
  ∀ d, (d + t.height cfg ≤ cfg.maxDepth → ∃ o, flattenGo cfg s d t = .ok o) ∧
       (d + t.height cfg > cfg.maxDepth → flattenGo cfg s d t = .error .recursion)

theorem heightList_le (cfg : Cfg) (xs : List PyObj) (n : Nat) :
    PyObj.heightList cfg xs ≤ n ↔ ∀ x ∈ xs, 1 + x.height cfg ≤ n := by
  induction xs with
  | nil => simp [PyObj.heightList]
  | cons x xs ih => simp [PyObj.heightList, ih, Nat.max_le]

theorem heightKVs_eq (cfg : Cfg) (kvs : List (Key × PyObj)) :
    PyObj.heightKVs cfg kvs = PyObj.heightList cfg (kvs.map (·.2)) := by
  induction kvs with
  | nil => rfl
  | cons p kvs ih => obtain ⟨k, x⟩ := p; simp only [PyObj.heightKVs, List.map_cons, PyObj.heightList, ih]

theorem heightList_congr (cfg : Cfg) {xs ys : List PyObj} (h : ∀ x, x ∈ xs ↔ x ∈ ys) :
    PyObj.heightList cfg xs = PyObj.heightList cfg ys :=
  Nat.le_antisymm
    ((heightList_le cfg xs _).mpr fun x hx => (heightList_le cfg ys _).mp (Nat.le_refl _) x ((h x).mp hx))
    ((heightList_le cfg ys _).mpr fun x hx => (heightList_le cfg xs _).mp (Nat.le_refl _) x ((h x).mpr hx))

theorem height_view (cfg : Cfg) (s : Bool) (x : PyObj) :
    x.height cfg = PyObj.heightList cfg (x.view cfg s).kids := by
  have dic : ∀ (od : Bool) (kvs : List (Key × PyObj)),
      PyObj.heightKVs cfg kvs = PyObj.heightList cfg ((dictOrder od s kvs).map (·.2)) := fun od kvs =>
    (heightKVs_eq cfg kvs).trans (heightList_congr cfg fun x => ((dictOrder_perm od s kvs).map _).mem_iff.symm)
  cases x <;> simp only [PyObj.height, PyObj.view, View.kids]
  case leaf => rfl
  case none => cases cfg.noneIsLeaf <;> rfl
  case dict kvs => exact dic false kvs
  case odict kvs => exact heightKVs_eq cfg kvs
  case ddict f kvs => exact dic false kvs
  case ntuple cls xs => cases cfg.reg.lookup cfg.ns 1 cls <;> rfl
  case sseq cls xs => cases cfg.reg.lookup cfg.ns 2 cls <;> rfl
  case user cls md q xs => cases cfg.reg.lookup cfg.ns 0 cls <;> rfl

/-- `DepthOK cfg s t` unfolds to `∀ d, DepthRes (d + t.height cfg) cfg.maxDepth (flattenGo cfg s d t)` -/
def DepthRes {α : Type} (n m : Nat) (r : Except Err α) : Prop :=
  (n ≤ m → ∃ o, r = .ok o) ∧ (n > m → r = .error .recursion)

theorem DepthRes.seq {n₁ n₂ m : Nat} {r : Except Err FlatOut} {rs : List (Except Err FlatOut)}
    (h₁ : DepthRes n₁ m r) (h₂ : DepthRes n₂ m (seqOuts rs)) : DepthRes (max n₁ n₂) m (seqOuts (r :: rs)) := by
  simp only [seqOuts]
  constructor
  · intro h
    obtain ⟨a, rfl⟩ := h₁.1 (Nat.max_le.1 h).1
    obtain ⟨b, hb⟩ := h₂.1 (Nat.max_le.1 h).2
    exact ⟨a.append b, by rw [hb]⟩
  · intro h
    by_cases hfit : n₁ ≤ m
    · obtain ⟨a, rfl⟩ := h₁.1 hfit
      rw [h₂.2 (by omega)]
    · rw [h₁.2 (Nat.lt_of_not_le hfit)]

theorem DepthRes.close {n m : Nat} {rs : List (Except Err FlatOut)} {kind : Kind} {ar : Nat} {data : NodeData}
    {entries : Option (List Key)} {custom : Option Reg} {okeys : Option (List Key)} {fc : Bool}
    (h : DepthRes n m (seqOuts rs)) :
    DepthRes n m (match seqOuts rs with
      | .error e => .error e
      | .ok b => .ok (b.close kind ar data entries custom okeys fc)) :=
  ⟨fun hn => by obtain ⟨o, ho⟩ := h.1 hn; rw [ho]; exact ⟨_, rfl⟩, fun hn => by rw [h.2 hn]⟩

theorem children_outcome (cfg : Cfg) (s : Bool) (d : Nat) (xs : List PyObj)
    (ih : ∀ x ∈ xs, DepthOK cfg s x) (hd : d ≤ cfg.maxDepth) :
    DepthRes (d + PyObj.heightList cfg xs) cfg.maxDepth (seqOuts (xs.map (flattenGo cfg s (d + 1)))) := by
  induction xs with
  | nil => exact ⟨fun _ => ⟨_, rfl⟩, fun h => absurd hd (Nat.not_le_of_gt h)⟩
  | cons x xs ihx =>
    rw [PyObj.heightList, ← Nat.add_max_add_left, ← Nat.add_assoc]
    exact DepthRes.seq (ih x List.mem_cons_self (d + 1)) (ihx fun y hy => ih y (List.mem_cons_of_mem x hy))

theorem depth_prelude (cfg : Cfg) (hp : cfg.pred = Option.none) (d h : Nat) (x : PyObj)
    (body : Except Err FlatOut) (hbody : d ≤ cfg.maxDepth → DepthRes (d + h) cfg.maxDepth body) :
    DepthRes (d + h) cfg.maxDepth
      (if d > cfg.maxDepth then Except.error Err.recursion
       else match cfg.evalPred x with
        | .error e => .error e
        | .ok true => .ok (leafOut x)
        | .ok false => body) := by
  by_cases hd : d > cfg.maxDepth
  · rw [if_pos hd]
    exact ⟨fun h => absurd (Nat.le_trans (Nat.le_add_right d _) h) (Nat.not_le_of_gt hd), fun _ => rfl⟩
  · rw [if_neg hd, evalPred_none cfg hp]
    exact hbody (Nat.le_of_not_gt hd)

/-- Without a predicate, `flatten` started at depth `d` on a well-formed tree succeeds when `d + height t` stays within
`maxDepth` and raises RecursionError — nothing else — when it does not. -/
theorem dobj (cfg : Cfg) (hp : cfg.pred = Option.none) (s : Bool) (t : PyObj) :
    t.wf = true → DepthOK cfg s t := by
  induction t using PyObj.view_induct cfg s with | _ t ih
  intro hwf d
  rw [flattenGo_view, height_view cfg s]
  apply depth_prelude cfg hp
  intro hd
  have hcs := children_outcome cfg s d _ (fun c hc => ih c hc (PyObj.wf_kids cfg s hwf c hc)) hd
  cases hv : t.view cfg s <;> simp only [hv, View.kids] at hcs ⊢
  case leaf => exact ⟨fun _ => ⟨_, rfl⟩, fun h => absurd hd (Nat.not_le_of_gt h)⟩
  case node k data ok cs => exact hcs.close
  case custom reg md q cs =>
    rw [PyObj.wf_quirk hwf hv, customFlatten_regEntries reg md cs _ (by simp)]
    exact hcs.close

theorem dkvs (cfg : Cfg) (hp : cfg.pred = Option.none) (s : Bool) :
    ∀ kvs : List (Key × PyObj), PyObj.wfKVs kvs = true → ∀ p ∈ kvs, DepthOK cfg s p.2 :=
  fun _ h p hp' => dobj cfg hp s p.2 (PyObj.wfKVs_mem h p hp')

/-- **RecursionError exactly above the limit.**  For every tree with well-behaved custom nodes and
no `is_leaf` predicate: `flatten` succeeds iff the tree has at most `maxDepth` levels below its root,
and otherwise raises RecursionError (no other error is possible) — for every node kind and every
mixture of kinds along the deep path. -/
theorem C16_depth_exact (cfg : Cfg) (hp : cfg.pred = Option.none) (t : PyObj) (hwf : t.wf = true) :
    (t.height cfg ≤ cfg.maxDepth → ∃ r, flatten cfg t = .ok r) ∧
    (t.height cfg > cfg.maxDepth → flatten cfg t = .error .recursion) := by
  have h := dobj cfg hp (!cfg.insertionOrdered) t hwf 0
  simp only [Nat.zero_add] at h
  unfold flatten
  constructor
  · intro hle
    obtain ⟨o, ho⟩ := h.1 hle
    simp only [ho]
    exact ⟨_, rfl⟩
  · intro hgt
    simp only [h.2 hgt]

/-- **… at exactly the same depth in flatten-with-path**: the two traversals raise RecursionError on the
same trees, from the same starting depths (from the simulation `aobj` of Lemmas/Agree.lean), so the threshold
of `C16_depth_exact` is the threshold of `tree_flatten_with_path` too. -/
theorem C16_depth_parity (cfg : Cfg) (s : Bool) (t : PyObj) (hwf : t.wf = true) (d : Nat) (path : List Key) :
    (flattenGoP cfg s d path t = .error .recursion ↔ flattenGo cfg s d t = .error .recursion) := by
  have h := aobj cfg s t hwf d path
  constructor
  · intro hP; rw [← h, hP]; rfl
  · intro hG
    rw [← h] at hG
    cases hr : flattenGoP cfg s d path t with
    | ok o => rw [hr] at hG; simp [eraseR] at hG
    | error e => rw [hr] at hG; simp only [eraseR, Except.error.injEq] at hG; rw [hG]

/-! ### non-vacuity -/

example : (⟨false, false, true, true⟩ : LoopDesc).safe = true := by decide
example : loopRun ⟨false, false, true, true⟩ (fun _ => .clear) 3 3 0 3 = .raised .index := by decide
example : loopRun ⟨false, false, false, true⟩ (fun _ => .clear) 3 3 0 3 = .fault := by decide
example : walk true 1000 20000 15840 0 = .raised .recursion := by decide +kernel
example : PyObj.height {} (.list [.tuple [.leaf 0 1], .leaf 0 2]) = 2 := by decide

end Optree
