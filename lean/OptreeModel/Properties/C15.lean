/-
  C15  A failing user callback fails the operation cleanly.
-/
import OptreeModel.Lemmas.Prog
import OptreeModel.Lemmas.FlattenView
import OptreeModel.Generated.Swallow

namespace Optree

/-! ### `flattenGoC` computes `flattenGo` -/

theorem seqC_den (ω : Oracle) (ps : List (Prog FlatOut)) :
    (seqC ps).den ω = seqOuts (ps.map (·.den ω)) := by
  induction ps with
  | nil => rfl
  | cons p ps ih =>
    simp only [seqC, List.map_cons, seqOuts]
    rw [Prog.den_bind]
    cases p.den ω with
    | error e => rfl
    | ok a =>
      simp only
      rw [Prog.den_bind, ih]
      cases seqOuts (ps.map (·.den ω)) with
      | error e => rfl
      | ok b => rfl

theorem closeSeqC_den (ω : Oracle) (ps : List (Prog FlatOut)) (kind : Kind) (arity : Nat)
    (data : NodeData) (entries : Option (List Key)) (custom : Option Reg) (okeys : Option (List Key)) :
    (closeSeqC ps kind arity data entries custom okeys).den ω =
      closeSeq (ps.map (·.den ω)) kind arity data entries custom okeys := by
  unfold closeSeqC closeSeq
  rw [Prog.den_bind, seqC_den]
  cases seqOuts (ps.map (·.den ω)) with
  | error e => rfl
  | ok b => rfl

theorem customFlattenC_den (cfg : Cfg) (reg : Reg) (x : PyObj) (ps : List (Prog FlatOut)) :
    (customFlattenC reg x ps).den cfg.oracle =
      customFlatten reg (customOut reg x) (ps.map (·.den cfg.oracle)) := by
  rw [customFlattenC, Prog.den_call, customFlatten]
  dsimp only [Cfg.oracle]
  by_cases h : ((customOut reg x).numOut != 2 && (customOut reg x).numOut != 3) = true
  · rw [if_pos h, if_pos h, Prog.den_err]
  · rw [if_neg h, if_neg h]
    cases (customOut reg x).children with
    | none => exact Prog.den_err _ _
    | some ch =>
      dsimp only
      rw [Prog.den_bind, seqC_den, List.length_map]
      cases seqOuts (ps.map (·.den cfg.oracle)) with
      | error e => rfl
      | ok body =>
        dsimp only
        -- the check of the entries is the same term on both sides, up to the names of its `match`es
        generalize (if (customOut reg x).numOut == 3 then _ else _ : Except Err (Option (List Key))) = ent
        cases ent
        · exact Prog.den_err _ _
        · exact Prog.den_ret _ _

def Cobj (cfg : Cfg) (s : Bool) (t : PyObj) : Prop :=
  ∀ d, (flattenGoC cfg s d t).den cfg.oracle = flattenGo cfg s d t

theorem flattenListC_eq (cfg : Cfg) (s : Bool) (d : Nat) (xs : List PyObj) :
    flattenListC cfg s d xs = xs.map (flattenGoC cfg s d) := by
  induction xs with
  | nil => rfl
  | cons x xs ih => simp [flattenListC, ih]

theorem flattenKVsC_eq (cfg : Cfg) (s : Bool) (d : Nat) (kvs : List (Key × PyObj)) :
    flattenKVsC cfg s d kvs = kvs.map fun p => (p.1, flattenGoC cfg s d p.2) := by
  induction kvs with
  | nil => rfl
  | cons p kvs ih => obtain ⟨k, x⟩ := p; simp [flattenKVsC, ih]

/-- `flattenGoC` one level at a time: `flattenGo_view` with programs in place of results -/
theorem flattenGoC_view (cfg : Cfg) (s : Bool) (d : Nat) (x : PyObj) :
    flattenGoC cfg s d x =
      if d > cfg.maxDepth then .err .recursion
      else predC cfg.pred.isSome x fun isLeaf =>
        if isLeaf then .ret (leafOut x)
        else match x.view cfg s with
        | .leaf => .ret (leafOut x)
        | .node k data ok cs =>
            closeSeqC (cs.map (flattenGoC cfg s (d + 1))) k cs.length data Option.none Option.none ok
        | .custom reg _ _ cs => customFlattenC reg x (cs.map (flattenGoC cfg s (d + 1))) := by
  cases x <;> rw [flattenGoC] <;>
    simp only [PyObj.view, flattenListC_eq, flattenKVsC_eq, dictOrder_mapVals, List.map_map,
      Function.comp_def, List.length_map, dictOrder_length]
  case none => cases cfg.noneIsLeaf <;> rfl
  case ntuple cls xs => cases cfg.reg.lookup cfg.ns 1 cls <;> rfl
  case sseq cls xs => cases cfg.reg.lookup cfg.ns 2 cls <;> rfl
  case user cls md q xs => cases cfg.reg.lookup cfg.ns 0 cls <;> rfl
  all_goals rfl

theorem predC_den (cfg : Cfg) (x : PyObj) (k : Bool → Prog FlatOut) :
    (predC cfg.pred.isSome x k).den cfg.oracle =
      match cfg.evalPred x with
      | .error e => .error e
      | .ok b => (k b).den cfg.oracle := by
  rw [predC, Cfg.evalPred]
  cases hp : cfg.pred with
  | none => rfl
  | some p =>
    rw [Option.isSome_some, if_pos rfl, Prog.den_call]
    simp only [Cfg.oracle, Cfg.evalPred, hp]
    cases p x <;> rfl

/-- `flatten` written as a program over its callbacks (`flattenGoC`: the predicate and the registered flatten
functions are calls answered by an oracle) denotes `flattenGo` when the oracle answers as the configuration does —
at any depth, for any tree. -/
theorem cobj (cfg : Cfg) (s : Bool) (t : PyObj) : Cobj cfg s t := by
  induction t using PyObj.view_induct cfg s with | _ t ih
  intro d
  -- both sides are the same depth guard in front of a case distinction on what the predicate answers
  rw [flattenGoC_view, flattenGo_view, apply_ite (Prog.den cfg.oracle), Prog.den_err, predC_den]
  refine congrArg _ ?_
  cases cfg.evalPred t with
  | error e => rfl
  | ok b =>
    cases b
    · have hcs : ∀ cs : List PyObj, (∀ c ∈ cs, Cobj cfg s c) →
          (cs.map (flattenGoC cfg s (d + 1))).map (·.den cfg.oracle) = cs.map (flattenGo cfg s (d + 1)) :=
        fun cs ih => by rw [List.map_map]; exact List.map_congr_left fun c hc => ih c hc (d + 1)
      cases hv : t.view cfg s <;> simp only [hv, View.kids] at ih ⊢
      · rfl
      · exact (closeSeqC_den ..).trans (by rw [hcs _ ih])
      · exact (customFlattenC_den ..).trans (by rw [hcs _ ih, customOut_view hv])
    · exact Prog.den_ret _ _

theorem ckvs (cfg : Cfg) (s : Bool) : ∀ kvs : List (Key × PyObj), ∀ p ∈ kvs, Cobj cfg s p.2 :=
  fun _ p _ => cobj cfg s p.2

/-- **Refinement.**  Run against the fault-free callbacks of a configuration, the callback program
`flattenC` returns exactly what `flatten` (the definition C01–C03 are about) returns — every tree,
every configuration, malformed flatten returns included. -/
theorem C15_flattenC_refines (cfg : Cfg) (t : PyObj) :
    (flattenC cfg t).den cfg.oracle = flatten cfg t := by
  unfold flattenC flatten
  rw [Prog.den_bind, cobj cfg (!cfg.insertionOrdered) t 0]
  dsimp only
  cases h : flattenGo cfg (!cfg.insertionOrdered) 0 t with
  | error e => rfl
  | ok out => simp

/-- **A callback that raises ends the operation there.**  For an arbitrary callback program (nothing here is special
to flatten): let the fault-free run make `m` invocations of user code.  A fault at an index `k < m` makes the run
return that exception after exactly `k + 1` invocations; a fault at `k ≥ m` is never reached. -/
theorem C15_propagates {α : Type} (ω : Oracle) (p : Prog α) (k : Nat) (e : Err) :
    let m := (p.run ω Option.none 0).2
    (k < m → p.run ω (some (k, e)) 0 = (.error e, k + 1)) ∧
    (m ≤ k → p.run ω (some (k, e)) 0 = p.run ω Option.none 0) :=
  ⟨fun h => (Prog.run_fault ω k e p 0).trans (if_pos ⟨Nat.zero_le k, h⟩),
   fun h => (Prog.run_fault ω k e p 0).trans (if_neg fun c => Nat.not_lt.2 h c.2)⟩

/-- **A fault at the k-th callback invocation of flatten.**  Let the fault-free flatten make `m`
invocations of user code (predicate and registered flatten functions together).  For every tree,
configuration, index `k` and exception `e`: if `k < m` the faulty run returns *that* exception, no
partial result, after exactly `k + 1` invocations (none after the failing one); if `k ≥ m` the fault
is never reached and the run is the fault-free one, whose outcome is `flatten cfg t`. -/
theorem C15_flatten_fault (cfg : Cfg) (t : PyObj) (k : Nat) (e : Err) :
    let m := ((flattenC cfg t).run cfg.oracle Option.none 0).2
    (k < m → (flattenC cfg t).run cfg.oracle (some (k, e)) 0 = (.error e, k + 1)) ∧
    (m ≤ k → (flattenC cfg t).run cfg.oracle (some (k, e)) 0 = (flatten cfg t, m)) :=
  -- the fault-free outcome is named by the refinement
  (C15_propagates cfg.oracle (flattenC cfg t) k e).imp id fun h hk =>
    (h hk).trans (Prod.ext (C15_flattenC_refines cfg t) rfl)

/-- malformed returns of a flatten function are the documented exceptions (RuntimeError for a wrong
tuple length, non-iterable children or an entries length mismatch, TypeError for non-iterable
entries) or the exception of a child — never an internal error -/
theorem C15_malformed_return_errors (reg : Reg) (co : CustomOut) (rs : List (Except Err FlatOut))
    (e : Err) (h : customFlatten reg co rs = .error e)
    (hrs : ∀ r ∈ rs, ∀ e', r = .error e' → e' ≠ .internal) : e ≠ .internal := by
  rcases customFlatten_error h with rfl | rfl | hmem
  · nofun
  · nofun
  · exact hrs _ hmem e rfl

/-- the re-entrancy guard of `__hash__` / `__repr__` is as before after the call, success or failure,
exactly when the exception path cleans up too -/
theorem C15_guards_cleared {α : Type} (guard : List Nat) (self : Nat) (body : Except Err α) (dflt : α) :
    (guarded ⟨true⟩ guard self body dflt).2 = guard := by
  unfold guarded
  split
  · rfl
  · cases body <;> simp

/-- … and without the cleanup a failing callback leaves the treespec marked as in progress -/
theorem C15_guards_need_cleanup (self : Nat) (e : Err) :
    (guarded (α := Nat) ⟨false⟩ [] self (.error e) 0).2 ≠ [] := by
  simp [guarded]

/-! ### obligations regenerated from the source on every run

The theorems above hold for programs without a handler.  The engine has handlers; the translator `swallow`
lists every place where an exception can disappear, and the lists must be the audited ones: catch-all blocks that
re-throw after cleaning up (registry rollback, the two re-entrancy guards), the `TypeError` filters of
`TotalOrderSort` (the property excludes exactly that exception) and of the struct-sequence test, the
`PyErr_Clear` calls that go with them — and no call to a CPython API that discards errors raised by
user code (`PyDict_GetItem`, `PyObject_HasAttr`, …). -/

theorem C15_cxx_swallow_sites :
    Generated.cxxSwallowSites =
      [("include/optree/pytypes.h", "PyErr_Clear", ""), ("include/optree/pytypes.h", "PyErr_Clear", ""),
       ("include/optree/pytypes.h", "PyErr_Clear", ""), ("include/optree/pytypes.h", "PyErr_Clear", ""),
       ("include/optree/pytypes.h", "PyErr_Clear", ""),
       ("include/optree/pytypes.h", "catch-filter", "AssertionError|TypeError"),
       ("include/optree/pytypes.h", "catch-filter", "TypeError"),
       ("include/optree/pytypes.h", "catch-filter", "TypeError"),
       ("src/registry.cpp", "catch-all-rethrow", ""),
       ("src/treespec/hashing.cpp", "catch-all-rethrow", ""),
       ("src/treespec/serialization.cpp", "catch-all-rethrow", "")] := rfl

/-- the re-entrancy guards of hashing.cpp and serialization.cpp clean up on the exception path
(`guarded ⟨true⟩` is the model of the code that exists) -/
theorem C15_guard_cleanup_present :
    ("src/treespec/hashing.cpp", "catch-all-rethrow", "") ∈ Generated.cxxSwallowSites ∧
    ("src/treespec/serialization.cpp", "catch-all-rethrow", "") ∈ Generated.cxxSwallowSites := by
  -- the last two entries of the audited list
  rw [C15_cxx_swallow_sites]
  exact ⟨List.mem_of_getElem? (i := 9) rfl, List.mem_of_getElem? (i := 10) rfl⟩

theorem C15_py_swallow_sites :
    Generated.pySwallowSites =
      [("optree/accessor.py", "__call__", "TypeError", true),
       ("optree/dataclasses.py", "make_dataclass", "AttributeError", false),
       ("optree/typing.py", "<module>", "ImportError", false),
       ("optree/typing.py", "__class_getitem__", "AttributeError", false),
       ("optree/typing.py", "inner", "TypeError", false),
       ("optree/typing.py", "is_structseq_class", "AssertionError|TypeError", false),
       ("optree/utils.py", "total_order_sorted", "TypeError", false),
       ("optree/utils.py", "total_order_sorted", "TypeError", false),
       ("optree/version.py", "<module>", "OSError|subprocess.CalledProcessError", false)] := rfl

/-! ### non-vacuity: a tree with a predicate and two custom nodes makes 8 callback invocations -/

def C15_demoCfg : Cfg :=
  { reg := { global := [(0, 0, ⟨1, 0, 0, .auto, .two⟩)], named := [] },
    pred := some fun x => match x with | .tuple _ => .ok true | _ => .ok false }

def C15_demoTree : PyObj :=
  .list [.user 0 Option.none .ok [.leaf 0 1, .tuple [.leaf 0 2]], .user 0 Option.none .ok [], .leaf 0 3]

example : ((flattenC C15_demoCfg C15_demoTree).run C15_demoCfg.oracle Option.none 0).2 = 8 := by decide
example : (match (flattenC C15_demoCfg C15_demoTree).run C15_demoCfg.oracle (some (3, .user 9)) 0 with
    | (.error (.user 9), 4) => true | _ => false) = true := by decide
example : (match (flattenC C15_demoCfg C15_demoTree).run C15_demoCfg.oracle (some (8, .user 9)) 0 with
    | (.ok (ls, _), 8) => ls.length == 3 | _ => false) = true := by decide

end Optree
