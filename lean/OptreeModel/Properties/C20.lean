/-
  C20  tree_ravel and its unravel function are mutually inverse.
  (tree level: `tree_ravel = ravelLeaves ∘ flatten`, `unravel_func = unflatten ∘ unravel`; the
  flatten / unflatten round trip is C01.)  NumPy / JAX / PyTorch are not modelled: `lib.cast` and the
  promoted dtype are parameters with the stated laws as hypotheses.
-/
import OptreeModel.Model.Ravel

namespace Optree

theorem splitSizes_flatten (pieces : List (List Int)) :
    splitSizes (pieces.map List.length) pieces.flatten = pieces := by
  induction pieces with
  | nil => rfl
  | cons p ps ih => simp [splitSizes, ih]

theorem splitSizes_join (sizes : List Nat) (xs : List Int) (h : xs.length = sizes.sum) :
    (splitSizes sizes xs).flatten = xs ∧ (splitSizes sizes xs).map List.length = sizes := by
  induction sizes generalizing xs with
  | nil =>
    obtain rfl := List.eq_nil_of_length_eq_zero h
    exact ⟨rfl, rfl⟩
  | cons n ns ih =>
    rw [List.sum_cons] at h
    obtain ⟨h1, h2⟩ := ih (xs.drop n) (by rw [List.length_drop, h, Nat.add_sub_cancel_left])
    exact ⟨by rw [splitSizes, List.flatten_cons, h1, List.take_append_drop],
      by rw [splitSizes, List.map_cons, h2, List.length_take, h, Nat.min_eq_left (Nat.le_add_right n _)]⟩

section
variable {α : Type} {f : α → List Int} {size : α → Nat} {l : List α} (h : ∀ a ∈ l, (f a).length = size a)
include h

theorem length_flatMap_sizes : (l.flatMap f).length = (l.map size).sum := by
  rw [List.length_flatMap, List.map_congr_left h]

theorem splitSizes_flatMap : splitSizes (l.map size) (l.flatMap f) = l.map f := by
  have hs : l.map size = (l.map f).map List.length := by
    rw [List.map_map]
    exact (List.map_congr_left h).symm
  rw [hs, List.flatMap_def, splitSizes_flatten]

end

theorem Arr.length_data {a : Arr} (h : a.wf = true) : a.data.length = a.size := by
  simpa [Arr.wf] using h

/-- **ravel = concatenation in leaf order** of the raveled leaves converted to the promoted dtype,
and its length is the total number of elements -/
theorem C20_ravel_concat (lib : ArrLib) (to : Nat) (leaves : List Arr) (hne : leaves ≠ [])
    (hwf : ∀ a ∈ leaves, a.wf = true) :
    let flat := (ravelLeaves lib to leaves).1
    flat.dtype = to ∧ flat.shape = [(leaves.map Arr.size).sum] ∧
    flat.data.length = (leaves.map Arr.size).sum ∧
    (leaves.all (·.dtype == to) → flat.data = leaves.flatMap (·.data)) ∧
    (¬ leaves.all (·.dtype == to) → flat.data = leaves.flatMap fun a => a.data.map (lib.cast a.dtype to)) := by
  have hsz : ∀ a ∈ leaves, a.data.length = a.size := fun a ha => Arr.length_data (hwf a ha)
  rw [ravelLeaves, if_neg (by simpa using hne)]
  split
  · exact ⟨rfl, rfl, length_flatMap_sizes hsz, fun _ => rfl, fun h => absurd ‹_› h⟩
  · exact ⟨rfl, rfl, length_flatMap_sizes fun a ha => by rw [List.length_map, hsz a ha], fun h => absurd h ‹_›,
      fun _ => rfl⟩

/-- the empty tree gives the empty array, and its unravel function only accepts shape (0,) -/
theorem C20_empty (lib : ArrLib) (to : Nat) :
    (ravelLeaves lib to []).1 = ⟨[0], lib.defaultDtype, []⟩ ∧
    unravel lib (ravelLeaves lib to []).2 ⟨[0], lib.defaultDtype, []⟩ = .ok [] ∧
    ∀ flat : Arr, flat.shape ≠ [0] → unravel lib (ravelLeaves lib to []).2 flat = .error .value := by
  refine ⟨rfl, rfl, ?_⟩
  intro flat h
  simp [ravelLeaves, unravel, h]

/-- **unravel ∘ ravel = id** when all leaves have the promoted dtype -/
theorem C20_unravel_ravel_single (lib : ArrLib) (to : Nat) (leaves : List Arr) (hne : leaves ≠ [])
    (hwf : ∀ a ∈ leaves, a.wf = true) (hall : leaves.all (·.dtype == to) = true) :
    unravel lib (ravelLeaves lib to leaves).2 (ravelLeaves lib to leaves).1 = .ok leaves := by
  rw [ravelLeaves, if_neg (by simpa using hne), if_pos hall]
  simp only [unravel, bne_self_eq_false, Bool.false_eq_true, if_false]
  -- splitting gives back the data of each leaf; zipped with its shape that is the leaf
  rw [splitSizes_flatMap fun a ha => Arr.length_data (hwf a ha), List.zip_map', List.map_map]
  refine congrArg Except.ok ((List.map_congr_left fun a ha => ?_).trans (List.map_id _))
  have hd : a.dtype = to := by simpa using List.all_eq_true.mp hall a ha
  rw [← hd]
  rfl

/-- **unravel ∘ ravel = id** for mixed dtypes, provided every value survives the cast to the
promoted dtype and back (`v` is representable) -/
theorem C20_unravel_ravel_mixed (lib : ArrLib) (to : Nat) (leaves : List Arr) (hne : leaves ≠ [])
    (hwf : ∀ a ∈ leaves, a.wf = true) (hmixed : leaves.all (·.dtype == to) = false)
    (hcast : ∀ a ∈ leaves, ∀ v ∈ a.data, lib.cast to a.dtype (lib.cast a.dtype to v) = v) :
    unravel lib (ravelLeaves lib to leaves).2 (ravelLeaves lib to leaves).1 = .ok leaves := by
  rw [ravelLeaves, if_neg (by simpa using hne), if_neg (by simp [hmixed])]
  simp only [unravel, bne_self_eq_false, Bool.false_eq_true, if_false]
  rw [splitSizes_flatMap fun a ha => by rw [List.length_map, Arr.length_data (hwf a ha)],
    List.zip_map', List.zip_map', List.map_map]
  refine congrArg Except.ok ((List.map_congr_left fun a ha => ?_).trans (List.map_id _))
  have hback : a.data.map (lib.cast to a.dtype ∘ lib.cast a.dtype to) = a.data :=
    (List.map_congr_left (hcast a ha)).trans (List.map_id' _)
  show Arr.mk a.shape a.dtype ((a.data.map (lib.cast a.dtype to)).map (lib.cast to a.dtype)) = a
  rw [List.map_map, hback]

/-- **ravel ∘ unravel = id** for the unravel function of leaves of one dtype (`.single`), on any 1-D array of
the right length: the arrays it returns concatenate to the data of `flat` and have the recorded shapes and the
dtype of `flat` -/
theorem C20_ravel_unravel_single (lib : ArrLib) (to : Nat) (sizes : List Nat) (shapes : List (List Nat))
    (flat : Arr) (hshape : flat.shape = [sizes.sum]) (hlen : flat.data.length = sizes.sum)
    (hsl : shapes.length = sizes.length) (out : List Arr)
    (h : unravel lib (.single sizes shapes) flat = .ok out) :
    out.flatMap (·.data) = flat.data ∧ out.map (·.shape) = shapes ∧ ∀ a ∈ out, a.dtype = flat.dtype := by
  simp only [unravel, hshape, bne_self_eq_false, Bool.false_eq_true, if_false, Except.ok.injEq] at h
  subst h
  obtain ⟨hj, hl⟩ := splitSizes_join sizes flat.data hlen
  have hlen2 : (splitSizes sizes flat.data).length = shapes.length := by
    rw [hsl, ← congrArg List.length hl, List.length_map]
  refine ⟨?_, ?_, ?_⟩
  · rw [List.flatMap_def, List.map_map]
    exact (congrArg List.flatten (List.map_fst_zip (Nat.le_of_eq hlen2))).trans hj
  · rw [List.map_map]
    exact List.map_snd_zip (Nat.le_of_eq hlen2.symm)
  · intro a ha
    obtain ⟨_, _, rfl⟩ := List.mem_map.1 ha
    rfl

/-- **rejections**: wrong shape always; wrong dtype when the leaves had mixed dtypes -/
theorem C20_rejects (lib : ArrLib) (sizes : List Nat) (shapes : List (List Nat)) (froms : List Nat)
    (to : Nat) (flat : Arr) :
    (flat.shape ≠ [sizes.sum] → unravel lib (.single sizes shapes) flat = .error .value) ∧
    (flat.shape ≠ [sizes.sum] → unravel lib (.mixed sizes shapes froms to) flat = .error .value) ∧
    (flat.dtype ≠ to → unravel lib (.mixed sizes shapes froms to) flat = .error .value) := by
  refine ⟨fun h => by simp [unravel, h], fun h => by simp [unravel, h], fun h => ?_⟩
  by_cases hs : flat.shape = [sizes.sum] <;> simp [unravel, hs, h]

/-! ### non-vacuity: rank-0, zero-size and ordinary leaves -/

def C20_lib : ArrLib := { cast := fun _ _ v => v, defaultDtype := 9 }
def C20_leaves : List Arr := [⟨[2, 2], 3, [1, 2, 3, 4]⟩, ⟨[], 3, [5]⟩, ⟨[0, 3], 3, []⟩, ⟨[3], 3, [6, 7, 8]⟩]

example : (∀ a ∈ C20_leaves, a.wf = true) ∧ C20_leaves.all (·.dtype == 3) = true := by decide
example : (ravelLeaves C20_lib 3 C20_leaves).1 = ⟨[8], 3, [1, 2, 3, 4, 5, 6, 7, 8]⟩ := by decide

end Optree
