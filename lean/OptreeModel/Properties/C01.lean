/-
  C01  Flatten then unflatten reconstructs the same tree.

  Quantification: every well-formed `PyObj` (`PyObj.wf`; all node kinds, any nesting), every `Cfg` (none_is_leaf,
  namespace, insertion-ordered set, any predicate — even a partial one — any depth limit) with `Registry.OK`;
  the two hypotheses are explained at `C01_roundtrip`.  `C01_flatten_sane` needs neither.
  Equality of `PyObj` terms *is* "same container type at every node, same keys in the same
  (insertion) order, same class / maxlen / factory / metadata, identical leaves at the same positions".
-/
import OptreeModel.Lemmas.Replace

namespace Optree

/-- the treespec produced by `flatten` passes the engine's sanity check -/
theorem C01_flatten_sane (cfg : Cfg) (t : PyObj) (ls : List PyObj) (sp : Spec)
    (h : flatten cfg t = .ok (ls, sp)) : sp.sane = true ∧ sp.numLeaves = ls.length := by
  obtain ⟨out, hout, rfl, rfl⟩ := flatten_ok h
  exact flattenGo_sane cfg _ 0 t out hout _ _

/-- **Round trip.**  If flattening succeeds, unflattening the treespec with the returned leaves
rebuilds exactly the original tree.  Hypotheses: dict keys are pairwise distinct, deques respect
their `maxlen`, registered flatten functions are well-behaved (`wf`), and the registry files every
registration under its own class (`Registry.OK`). -/
theorem C01_roundtrip (cfg : Cfg) (hreg : cfg.reg.OK) (t : PyObj) (hwf : t.wf = true)
    (ls : List PyObj) (sp : Spec) (h : flatten cfg t = .ok (ls, sp)) :
    unflatten sp ls = .ok t := by
  have hs := (C01_flatten_sane cfg t ls sp h).1
  obtain ⟨out, hout, rfl, rfl⟩ := flatten_ok h
  exact (pobj cfg hreg _ t hwf 0 out hout).unflatten rfl hs

/-- Flattening the rebuilt tree again yields the identical leaves and the identical treespec. -/
theorem C01_reflatten (cfg : Cfg) (hreg : cfg.reg.OK) (t : PyObj) (hwf : t.wf = true)
    (ls : List PyObj) (sp : Spec) (h : flatten cfg t = .ok (ls, sp)) (t' : PyObj)
    (h' : unflatten sp ls = .ok t') : flatten cfg t' = .ok (ls, sp) := by
  rw [C01_roundtrip cfg hreg t hwf ls sp h] at h'
  cases h'
  exact h

/-- The machine-level statement behind the round trip: running `unflattenGo` over the records and
leaves produced for `t`, in the middle of any larger run, pushes exactly `t`. -/
theorem C01_machine (cfg : Cfg) (hreg : cfg.reg.OK) (sorted : Bool) (t : PyObj) (hwf : t.wf = true)
    (d : Nat) (out : FlatOut) (h : flattenGo cfg sorted d t = .ok out)
    (rest : List Node) (ls stack : List PyObj) :
    unflattenGo (out.nodes ++ rest) (out.leaves ++ ls) stack = unflattenGo rest ls (t :: stack) := by
  simpa using pobj cfg hreg sorted t hwf d out h rest ls stack

/-! ### non-vacuity: concrete, non-trivial instances satisfy the hypotheses -/

def C01_demoReg : Registry :=
  { global := [(0, 0, { rid := 1, cls := 0, clsKind := 0, entryKind := .auto, mode := .named })]
    named := [("a", 2, 0, { rid := 2, cls := 2, clsKind := 0, entryKind := .getitem, mode := .shifted })] }

def C01_demoTree : PyObj :=
  .tuple [.leaf 0 1,
          .dict [(.str "b", .leaf 0 2), (.int 3, .list [.leaf 0 3, .none]), (.str "a", .deque (some 2) [.leaf 0 4])],
          .user 0 (some (.int 5)) .ok [.leaf 0 6, .ddict (some 1) [(.tup [1], .leaf 0 7)]],
          .ntuple 0 [.leaf 0 8, .odict [(.obj "vk.KU" false 0 1, .leaf 0 9)]]]

example : C01_demoTree.wf = true := by decide

example : (C01_demoReg).OK := Registry.OK_of_okB _ (by decide)

/-- the demo tree flattens (mixed int/str keys: stage-2 order), and the round trip closes -/
example :
    (match flatten { reg := C01_demoReg } C01_demoTree with
     | .ok (ls, sp) =>
        ls.length == 8 &&
        (match unflatten sp ls with
         | .ok t' => t' == C01_demoTree
         | .error _ => false)
     | .error _ => false) = true := by decide +kernel

/-- **Leaf count.**  A treespec produced by `flatten` accepts *any* list of exactly `num_leaves`
replacement leaves (whatever objects they are) and rejects every other length with ValueError. -/
theorem C01_leaf_count (cfg : Cfg) (hreg : cfg.reg.OK) (t : PyObj) (hwf : t.wf = true)
    (ls : List PyObj) (sp : Spec) (h : flatten cfg t = .ok (ls, sp)) (ls' : List PyObj) :
    (ls'.length = sp.numLeaves → ∃ t', unflatten sp ls' = .ok t') ∧
    (ls'.length ≠ sp.numLeaves → unflatten sp ls' = .error .value) := by
  have hrt := C01_roundtrip cfg hreg t hwf ls sp h
  obtain ⟨hs, hn⟩ := C01_flatten_sane cfg t ls sp h
  rw [unflatten_of_sane hs] at hrt ⊢
  rw [hn]
  exact unflattenGo_leaf_count sp.nodes ls [] t hrt ls' [] rfl

/-- **Replacement leaves.**  Unflattening the treespec with *any* `n` leaf-typed objects (`LeafObj`: objects
that flatten to themselves — opaque objects, `None` under `none_is_leaf`, instances of unregistered
classes, anything the predicate accepts) builds a tree that flattens back to exactly those `n` objects, in
order, and to the identical treespec.  `PredOnLeaves` is the documented contract of `is_leaf`: the predicate
decides among leaf-typed objects and fires on no container, so not on those being rebuilt (trivially true
without a predicate); `C01_replace_needs_stable_predicate` shows that it cannot be dropped.
A rebuilt dict keeps the original insertion order while its items are visited in the same sorted order as
before (`dict_rebuild`). -/
theorem C01_replace_leaves (cfg : Cfg) (hreg : cfg.reg.OK) (hst : PredOnLeaves cfg) (t : PyObj)
    (hwf : t.wf = true) (ls : List PyObj) (sp : Spec) (h : flatten cfg t = .ok (ls, sp))
    (ls' : List PyObj) (hl : ls'.length = ls.length) (hleaf : ∀ x ∈ ls', LeafObj cfg x) :
    ∃ t', unflatten sp ls' = .ok t' ∧ flatten cfg t' = .ok (ls', sp) := by
  have hs := (C01_flatten_sane cfg t ls sp h).1
  obtain ⟨out, hout, rfl, rfl⟩ := flatten_ok h
  obtain ⟨t', rt, fl⟩ := robj cfg hreg hst _ t hwf 0 out hout ls' hl hleaf
  exact ⟨t', rt.unflatten rfl hs, flatten_of_flattenGo fl⟩

/-- without a predicate the contract holds outright -/
theorem C01_replace_leaves_nopred (cfg : Cfg) (hreg : cfg.reg.OK) (hp : cfg.pred = Option.none) (t : PyObj)
    (hwf : t.wf = true) (ls : List PyObj) (sp : Spec) (h : flatten cfg t = .ok (ls, sp))
    (ls' : List PyObj) (hl : ls'.length = ls.length) (hleaf : ∀ x ∈ ls', LeafObj cfg x) :
    ∃ t', unflatten sp ls' = .ok t' ∧ flatten cfg t' = .ok (ls', sp) :=
  C01_replace_leaves cfg hreg (predOnLeaves_of_none cfg hp) t hwf ls sp h ls' hl hleaf

/-- opaque objects are leaf-typed when there is no predicate -/
theorem C01_leafObj_leaf (cfg : Cfg) (hp : cfg.pred = Option.none) (ty uid : Nat) :
    LeafObj cfg (.leaf ty uid) := by
  intro s d hd
  rw [flattenGo_view, if_neg hd, evalPred_none cfg hp]
  rfl

/-- the hypothesis on the predicate cannot be dropped: take a predicate that fires on the *rebuilt* container
but not on the original one.  Here it fires on tuples whose first item is the opaque object 7: the tree `(1,)`
flattens to one leaf, and after replacing that leaf by object 7 the rebuilt tuple is itself a leaf, so the
re-flatten returns the tuple, not the replacement object. -/
theorem C01_replace_needs_stable_predicate :
    let pred : PyObj → Except Err Bool := fun x =>
      match x with
      | .tuple (.leaf 0 7 :: _) => .ok true
      | _ => .ok false
    let cfg : Cfg := { pred := some pred }
    let t := PyObj.tuple [.leaf 0 1]
    ∃ ls sp, flatten cfg t = .ok (ls, sp) ∧ ls.length = 1 ∧
      ∃ t', unflatten sp [.leaf 0 7] = .ok t' ∧
        (match flatten cfg t' with
         | .ok (ls'', _) => ls'' == [PyObj.leaf 0 7]
         | .error _ => false) = false := by
  refine ⟨[.leaf 0 1], _, rfl, rfl, .tuple [.leaf 0 7], rfl, ?_⟩
  decide

/-- non-vacuity: the demo tree of the round trip (all hypotheses hold: registry, well-formedness, no
predicate), eight fresh opaque replacement leaves: the rebuilt tree flattens to exactly those -/
example :
    (match flatten { reg := C01_demoReg } C01_demoTree with
     | .ok (ls, sp) =>
        let ls' := (List.range ls.length).map fun i => PyObj.leaf 3 (100 + i)
        (match unflatten sp ls' with
         | .ok t' =>
            (match flatten { reg := C01_demoReg } t' with
             | .ok (ls'', sp') => ls'' == ls' && sp' == sp && !(t' == C01_demoTree)
             | .error _ => false)
         | .error _ => false)
     | .error _ => false) = true := by decide +kernel

end Optree
