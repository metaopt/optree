/-
  C09  Broadcasting replicates prefix leaves onto the matching positions.
-/
import OptreeModel.Model.Ops
import OptreeModel.Lemmas.EncBroadcast
import OptreeModel.Properties.C07
import OptreeModel.Lemmas.TreeMap
import OptreeModel.Properties.C01
import OptreeModel.Properties.C02
import OptreeModel.Lemmas.GraftBuild
import OptreeModel.Lemmas.Control

namespace Optree

/-- mismatching `none_is_leaf` or conflicting namespaces are rejected with `ValueError` -/
theorem C09_rejects (a b : Spec) (hs : a.sane = true ∧ b.sane = true)
    (h : a.noneIsLeaf ≠ b.noneIsLeaf ∨ nsCompatible a.ns b.ns = false) :
    broadcast a b = .error .value :=
  optionsGuard_rejects a b _ hs h

theorem copyRev_all (nodes : List Node) (hne : nodes ≠ []) :
    copyRev nodes ((nodes.length : Int) - 1) nodes.length = nodes.reverse := by
  have hpos : 0 < nodes.length := List.length_pos_iff.mpr hne
  have h1 : ((nodes.length : Int) - 1).toNat + 1 = nodes.length := by omega
  rw [copyRev, h1, List.take_length, Nat.sub_self, List.drop_zero]

/-- **A leaf is a prefix of everything** (engine level): where the first treespec has a leaf, the
merge walk copies the other treespec's whole subtree and reports its counts -/
theorem C09_leaf_left_go (fuel : Nat) (otr : List Node) (opos : Pos) (out : List Node)
    (oroot : Node) (hat : nodeAt otr opos = .ok oroot) (hsize : ¬ (opos + 1 < (oroot.numNodes : Int))) :
    broadcastGo (fuel + 1) [Node.leaf] 0 otr opos out =
      .ok (⟨1, oroot.numNodes, oroot.numNodes, oroot.numLeaves⟩,
           out ++ copyRev otr opos oroot.numNodes) :=
  broadcastGo_leaf_left fuel _ otr 0 opos out Node.leaf oroot rfl hat (by simpa [Node.leaf] using hsize) rfl

/-- symmetric case: where the *other* treespec has a leaf, the first one's subtree is kept -/
theorem C09_leaf_right_go (fuel : Nat) (tr : List Node) (pos : Pos) (out : List Node)
    (root : Node) (hat : nodeAt tr pos = .ok root) (hsize : ¬ (pos + 1 < (root.numNodes : Int)))
    (hk : root.kind ≠ .leaf) :
    broadcastGo (fuel + 1) tr pos [Node.leaf] 0 out =
      .ok (⟨root.numNodes, 1, root.numNodes, root.numLeaves⟩, out ++ copyRev tr pos root.numNodes) :=
  broadcastGo_leaf_right fuel tr _ pos 0 out root Node.leaf hat rfl (by simpa [Node.leaf] using hsize) hk rfl

/-- a tuple node against a list node is rejected with `ValueError` -/
theorem C09_kind_conflict (fuel : Nat) (tr otr : List Node) (pos opos : Pos) (out : List Node)
    (root oroot : Node) (hat : nodeAt tr pos = .ok root) (hoat : nodeAt otr opos = .ok oroot)
    (hsz : ¬ (pos + 1 < (root.numNodes : Int))) (hosz : ¬ (opos + 1 < (oroot.numNodes : Int)))
    (hk : root.kind = .tuple) (hok : oroot.kind = .list) :
    broadcastGo (fuel + 1) tr pos otr opos out = .error .value := by
  rw [broadcastGo, hat, hoat]
  dsimp only
  rw [if_neg (by simp [hsz, hosz]), hk, hok]
  rfl

/-- a sane treespec, for the hypotheses of `C09_rejects` -/
def C09_demo : Spec :=
  { nodes := [Node.leaf, Node.leaf,
              { kind := .tuple, arity := 2, data := .none, entries := Option.none, custom := Option.none,
                numLeaves := 2, numNodes := 3, originalKeys := Option.none }],
    noneIsLeaf := false, ns := "" }

example : C09_demo.sane = true := by decide

/-! ### refinement: the merge walk computes the least common suffix of the two shapes

`STree.lub` (Model/STree.lean) is the property's "least structure that both are prefixes of", as a
structural recursion: a leaf gives way to the other side; compatible nodes are merged child by child
(by position, or by key for the dict kinds) keeping the first operand's node. -/

/-- **`broadcast_to_common_suffix` on encodings is `lub`**: `ValueError` exactly on a conflict, otherwise the
encoding of the merged shape — for all well-formed shapes whose payloads fit their kinds, any nesting,
any dict key orders.  (The C++ walks both arrays with integer cursors, writes the result in reverse
post-order and patches each node's counts after every child.) -/
theorem C09_broadcast_refines (a b : STree) (ha : a.wf = true) (hfa : a.fitsT = true) (hb : b.wf = true)
    (hfb : b.fitsT = true) (nil : Bool) (ns ns' : String) (hc : nsCompatible ns ns' = true) :
    broadcast (a.spec nil ns) (b.spec nil ns') = bcastSpec a b nil (mergeNs ns ns') := by
  rw [broadcast_enc a b ha hfa hb hfb]
  simp [hc]

/-- spelled out: a conflict is a `ValueError`, otherwise the result is the treespec of `lub a b` -/
theorem C09_broadcast_cases (a b : STree) (nil : Bool) (ns : String) :
    (a.lub b = Option.none → bcastSpec a b nil ns = .error .value) ∧
    (∀ c, a.lub b = some c → bcastSpec a b nil ns = .ok (c.spec nil ns)) := by
  constructor
  · intro h
    simp [bcastSpec, h]
  · intro c h
    simp [bcastSpec, h]

/-- a leaf is replaced by the whole other operand, on either side -/
theorem C09_lub_leaf (b : STree) : STree.leaf.lub b = some b ∧ (∀ i cs, (STree.node i cs).lub .leaf = some (.node i cs)) :=
  ⟨rfl, fun _ _ => rfl⟩

mutual
/-- **the first operand is a prefix of the merged shape** (the result keeps its node types, key order and
custom entries, only leaves were replaced) -/
theorem C09_lub_extends_left : ∀ a : STree, a.wf = true → ∀ b : STree, b.wf = true → ∀ c : STree,
    a.lub b = some c → a.prefixB c = true
  | .leaf, _, _, _, _, _ => rfl
  | .node i cs, ha, .leaf, _, c, h => by
      cases h
      exact STree.prefixB_refl _ ha
  | .node i cs, ha, .node j ds, hb, c, h => by
      obtain ⟨hnl, li, ni, wa⟩ := STree.wf_nodeK ha
      obtain ⟨-, -, rc, hl, hrl, rfl⟩ := STree.lub_node_some ha hb h
      have hw := STree.wfL_subset (alignC_subset i j ds) (STree.wf_node hb).2.2.2
      have li' : i.kind.isDict = true → i.keys.length = rc.length := fun h => (li h).trans hrl.symm
      rw [STree.prefixB_nf i i cs rc li li', NInfo.preC_refl hnl, alignC_self li' ni,
        C09_lubL_extends_left cs wa _ hw rc hl, hrl]
      simp
theorem C09_lubL_extends_left : ∀ cs : List STree, STree.wfL cs = true → ∀ ds : List STree,
    STree.wfL ds = true → ∀ rc : List STree, STree.lubL cs ds = some rc → STree.prefixL cs rc = true
  | [], _, ds, _, rc, h => by
      cases ds with
      | nil =>
        cases h
        rfl
      | cons d ds => cases h
  | c :: cs, hw, ds, hwd, rc, h => by
      cases ds with
      | nil => cases h
      | cons d ds =>
        rw [STree.wfL_cons] at hw hwd
        obtain ⟨x, xs, h1, h2, rfl⟩ := STree.lubL_cons_some h
        simp [STree.prefixL, C09_lub_extends_left c hw.1 d hwd.1 x h1, C09_lubL_extends_left cs hw.2 ds hwd.2 xs h2]
end

mutual
/-- **idempotence**: broadcasting a shape with itself gives the shape back -/
theorem C09_lub_idem : ∀ a : STree, a.wf = true → a.fitsT = true → a.lub a = some a
  | .leaf, _, _ => rfl
  | .node i cs, ha, hf => by
      obtain ⟨hnl, li, ni, wa⟩ := STree.wf_nodeK ha
      simp only [STree.fitsT, Bool.and_eq_true] at hf
      rw [STree.lub_nf i i cs cs ha ha, NInfo.lubC_of_preC hf.1 (NInfo.preC_refl hnl), alignC_self li ni,
        C09_lubL_idem cs wa hf.2]
      simp
theorem C09_lubL_idem : ∀ cs : List STree, STree.wfL cs = true → STree.fitsL cs = true →
    STree.lubL cs cs = some cs
  | [], _, _ => rfl
  | c :: cs, hw, hf => by
      rw [STree.wfL_cons] at hw
      rw [STree.fitsL_cons] at hf
      simp [STree.lubL, C09_lub_idem c hw.1 hf.1, C09_lubL_idem cs hw.2 hf.2]
end

/-- hence `spec.broadcast_to_common_suffix(spec) == spec` -/
theorem C09_broadcast_idem (a : STree) (ha : a.wf = true) (hfa : a.fitsT = true) (nil : Bool) (ns : String) :
    broadcast (a.spec nil ns) (a.spec nil ns) = .ok (a.spec nil (mergeNs ns ns)) := by
  rw [C09_broadcast_refines a a ha hfa ha hfa nil ns ns (by simp [nsCompatible])]
  simp [bcastSpec, C09_lub_idem a ha hfa]

/-! ### the merged shape is the *least* common suffix

`Lemmas/LubOrder.lean`: on the normal forms of `prefixB` / `lub` at a pair of nodes (`STree.prefixB_nf`,
`STree.lub_nf`), mutual structural induction (children of dict kinds re-paired by key in both directions).
`RegsAgree`: each custom class has one registration record among the two shapes — `is_prefix` compares
registrations by identity while `broadcast_to_common_suffix` compares the registered *class*, so two treespecs
made before and after a re-registration merge but are not prefixes of the result; that is the code, and the
hypothesis says so. -/

/-- the merged shape is again well-formed with payloads fitting the kinds -/
theorem C09_lub_closed (a b c : STree) (ha : a.wf = true) (hfa : a.fitsT = true) (hb : b.wf = true)
    (hfb : b.fitsT = true) (h : a.lub b = some c) : c.wf = true ∧ c.fitsT = true :=
  STree.lub_wf a ha hfa b hb hfb c h

/-- **the second operand is a prefix of the merged shape** -/
theorem C09_lub_extends_right (a b c : STree) (ha : a.wf = true) (hfa : a.fitsT = true) (hb : b.wf = true)
    (hfb : b.fitsT = true) (hreg : RegsAgree a.regs b.regs) (h : a.lub b = some c) : b.prefixB c = true :=
  STree.lub_extends_right a ha hfa b hb hfb hreg c h

/-- **leastness**: whenever both operands are prefixes of some shape `d`, the merge succeeds and the
merged shape is a prefix of `d` -/
theorem C09_lub_least (a b d : STree) (ha : a.wf = true) (hfa : a.fitsT = true) (hb : b.wf = true)
    (hfb : b.fitsT = true) (hd : d.wf = true) (h1 : a.prefixB d = true) (h2 : b.prefixB d = true) :
    ∃ c, a.lub b = some c ∧ c.prefixB d = true :=
  STree.lub_least a ha hfa b hb hfb d hd h1 h2

/-- **`ValueError` exactly when the two shapes have no common suffix** -/
theorem C09_conflict_iff (a b : STree) (ha : a.wf = true) (hfa : a.fitsT = true) (hb : b.wf = true)
    (hfb : b.fitsT = true) (hreg : RegsAgree a.regs b.regs) :
    a.lub b = Option.none ↔ ¬ ∃ d : STree, d.wf = true ∧ a.prefixB d = true ∧ b.prefixB d = true := by
  constructor
  · rintro h ⟨d, hd, h1, h2⟩
    obtain ⟨c, hc, _⟩ := C09_lub_least a b d ha hfa hb hfb hd h1 h2
    simp [h] at hc
  · intro h
    cases hl : a.lub b with
    | none => rfl
    | some c =>
      exact absurd ⟨c, (C09_lub_closed a b c ha hfa hb hfb hl).1, C09_lub_extends_left a ha b hb c hl,
        C09_lub_extends_right a b c ha hfa hb hfb hreg hl⟩ h

/-- engine level: `a.broadcast_to_common_suffix(b)` raises `ValueError` iff no treespec has both as prefixes -/
theorem C09_broadcast_error_iff (a b : STree) (ha : a.wf = true) (hfa : a.fitsT = true) (hb : b.wf = true)
    (hfb : b.fitsT = true) (hreg : RegsAgree a.regs b.regs) (nil : Bool) (ns : String) :
    broadcast (a.spec nil ns) (b.spec nil ns) = .error .value ↔
      ¬ ∃ d : STree, d.wf = true ∧ a.prefixB d = true ∧ b.prefixB d = true := by
  rw [C09_broadcast_refines a b ha hfa hb hfb nil ns ns (by simp [nsCompatible]),
    ← C09_conflict_iff a b ha hfa hb hfb hreg]
  unfold bcastSpec
  cases a.lub b <;> simp

/-- engine level: both operands are `<=` the result, and the result is `<=` every common suffix -/
theorem C09_broadcast_is_least (a b : STree) (ha : a.wf = true) (hfa : a.fitsT = true) (hb : b.wf = true)
    (hfb : b.fitsT = true) (hreg : RegsAgree a.regs b.regs) (nil : Bool) (ns : String) (r : Spec)
    (h : broadcast (a.spec nil ns) (b.spec nil ns) = .ok r) :
    isPrefix (a.spec nil ns) r false = .ok true ∧ isPrefix (b.spec nil ns) r false = .ok true ∧
      ∀ d : STree, d.wf = true → isPrefix (a.spec nil ns) (d.spec nil ns) false = .ok true →
        isPrefix (b.spec nil ns) (d.spec nil ns) false = .ok true →
        isPrefix r (d.spec nil ns) false = .ok true := by
  rw [C09_broadcast_refines a b ha hfa hb hfb nil ns ns (by simp [nsCompatible])] at h
  unfold bcastSpec at h
  cases hl : a.lub b with
  | none =>
    rw [hl] at h
    cases h
  | some c =>
    have hns : mergeNs ns ns = ns := ite_self _
    rw [hl, hns] at h
    cases h
    have hc := C09_lub_closed a b c ha hfa hb hfb hl
    refine ⟨(isPrefix_spec_iff a c ha hc.1 nil ns).mpr (C09_lub_extends_left a ha b hb c hl),
      (isPrefix_spec_iff b c hb hc.1 nil ns).mpr (C09_lub_extends_right a b c ha hfa hb hfb hreg hl), ?_⟩
    intro d hd h1 h2
    obtain ⟨c', hc', hp⟩ := C09_lub_least a b d ha hfa hb hfb hd
      ((isPrefix_spec_iff a d ha hd nil ns).mp h1) ((isPrefix_spec_iff b d hb hd nil ns).mp h2)
    cases hl.symm.trans hc'
    exact (isPrefix_spec_iff c d hc.1 hd nil ns).mpr hp

/-- **independent of argument order up to dict kind / key order**: the two results are prefixes of each
other (same nodes; only the node records taken from the other operand — dict kind, key order, custom
entries — may differ) -/
theorem C09_lub_comm (a b c : STree) (ha : a.wf = true) (hfa : a.fitsT = true) (hb : b.wf = true)
    (hfb : b.fitsT = true) (hreg : RegsAgree a.regs b.regs) (h : a.lub b = some c) :
    ∃ c', b.lub a = some c' ∧ c.prefixB c' = true ∧ c'.prefixB c = true := by
  have hc := C09_lub_closed a b c ha hfa hb hfb h
  have hac := C09_lub_extends_left a ha b hb c h
  have hbc := C09_lub_extends_right a b c ha hfa hb hfb hreg h
  obtain ⟨c', hc', hp'⟩ := C09_lub_least b a c hb hfb ha hfa hc.1 hbc hac
  have hcw := C09_lub_closed b a c' hb hfb ha hfa hc'
  have hbc' := C09_lub_extends_left b hb a ha c' hc'
  have hreg' : RegsAgree b.regs a.regs := fun r hr r' hr' e1 e2 => (hreg r' hr' r hr e1.symm e2.symm).symm
  have hac' := C09_lub_extends_right b a c' hb hfb ha hfa hreg' hc'
  obtain ⟨c'', hc'', hp''⟩ := C09_lub_least a b c' ha hfa hb hfb hcw.1 hac' hbc'
  cases h.symm.trans hc''
  exact ⟨c', hc', hp'', hp'⟩

/-- **when one operand is already a prefix of the other, the result is the other operand** (up to the
node records the result takes from the first operand: dict kind, key order, custom entries) -/
theorem C09_lub_of_prefix (a b : STree) (ha : a.wf = true) (hfa : a.fitsT = true) (hb : b.wf = true)
    (hfb : b.fitsT = true) (hreg : RegsAgree a.regs b.regs) (h : a.prefixB b = true) :
    ∃ c, a.lub b = some c ∧ c.prefixB b = true ∧ b.prefixB c = true ∧ c.size = b.size := by
  obtain ⟨c, hc, hp⟩ := C09_lub_least a b b ha hfa hb hfb hb h (STree.prefixB_refl b hb)
  have hcw := C09_lub_closed a b c ha hfa hb hfb hc
  have hbc := C09_lub_extends_right a b c ha hfa hb hfb hreg hc
  exact ⟨c, hc, hp, hbc, STree.prefixB_antisymm_size c b hcw.1 hb hp hbc⟩

/-- non-vacuity: `{"a": *, "b": (*, *)}` and `OrderedDict(b=*, a=[*])` merge to `{"a": [*], "b": (*, *)}` -/
def C09_demoA : STree :=
  .node ⟨.dict, .keys [.str "a", .str "b"], Option.none, Option.none, some [.str "a", .str "b"]⟩
    [.leaf, .node ⟨.tuple, .none, Option.none, Option.none, Option.none⟩ [.leaf, .leaf]]
def C09_demoB : STree :=
  .node ⟨.ordereddict, .keys [.str "b", .str "a"], Option.none, Option.none, Option.none⟩
    [.leaf, .node ⟨.list, .none, Option.none, Option.none, Option.none⟩ [.leaf]]

example : C09_demoA.wf = true ∧ C09_demoA.fitsT = true ∧ C09_demoB.wf = true ∧ C09_demoB.fitsT = true ∧
    ((C09_demoA.lub C09_demoB).map STree.leaves) = some 3 := by decide

/-- the hypotheses of the order theorems are met by the demo pair (no custom nodes: `RegsAgree` holds
trivially), and the pair has a common suffix -/
example : RegsAgree C09_demoA.regs C09_demoB.regs := by
  intro r hr
  simp [C09_demoA, STree.regs, STree.regsL] at hr

example : ∃ c, C09_demoA.lub C09_demoB = some c ∧ C09_demoB.prefixB c = true ∧ c.size = 6 := by
  refine ⟨_, rfl, ?_, ?_⟩ <;> decide

/-- a genuinely conflicting pair (`(*, *)` against `[*, *]`) has no common suffix -/
example : (STree.node ⟨.tuple, .none, Option.none, Option.none, Option.none⟩ [.leaf, .leaf]).lub
    (.node ⟨.list, .none, Option.none, Option.none, Option.none⟩ [.leaf, .leaf]) = Option.none := by decide

/-- what `broadcast_leaves(x, subtree)` returns: a tree of the subtree's shape whose every leaf is `x` -/
def BcastRel (cfg : Cfg) (p : PyObj × PyObj) (y : PyObj) : Prop :=
  shapeOf cfg (!cfg.insertionOrdered) y = shapeOf cfg (!cfg.insertionOrdered) p.2 ∧
  leavesOf cfg (!cfg.insertionOrdered) y = List.replicate (leavesOf cfg (!cfg.insertionOrdered) p.2).length p.1

theorem broadcastLeaves_ok (cfg : Cfg) (hreg : cfg.reg.OK) (hp : cfg.pred = Option.none) (x sub : PyObj)
    (hx : LeafLike cfg (!cfg.insertionOrdered) x) (hw : sub.wf = true) (ls : List PyObj) (ss : Spec)
    (hf : flatten cfg sub = .ok (ls, ss)) :
    ∃ y, broadcastLeaves cfg x sub = .ok y ∧ BcastRel cfg (x, sub) y := by
  obtain ⟨_, hnl⟩ := C01_flatten_sane cfg sub ls ss hf
  obtain ⟨y, hu, g1, g2⟩ := unflatten_leafLike cfg hreg hp sub hw ls ss hf (List.replicate ss.numLeaves x)
    (by simp [hnl]) fun z hz => (List.mem_replicate.mp hz).2 ▸ hx
  exact ⟨y, by simp [broadcastLeaves, hf, hu], g1,
    by rw [g2, ← C02_leaf_order cfg sub ls ss hf, hnl]⟩

/-- **`tree_broadcast_prefix` at tree level** (no predicate): when the prefix tree's treespec matches the full tree
(`flatten_up_to` succeeds, C07) the result is built from the prefix tree's records with, in place of its i-th leaf
`x_i`, a tree of the shape of the i-th matched subtree whose every leaf is `x_i`: its shape is the prefix shape
with the matched subtrees' shapes grafted on, and its leaves are each prefix leaf repeated once per leaf of the
subtree it covers — "every leaf equals the unique prefix leaf above it". -/
theorem C09_broadcast_prefix_tree (cfg : Cfg) (hreg : cfg.reg.OK) (hp : cfg.pred = Option.none) (pre full : PyObj)
    (hwp : pre.wf = true) (lp : List PyObj) (sp : Spec) (hfp : flatten cfg pre = .ok (lp, sp))
    (subs : List PyObj) (hup : flattenUpTo cfg.reg sp full = .ok subs) (hlen : subs.length = lp.length)
    (hsubs : ∀ sub ∈ subs, sub.wf = true ∧ ∃ ls ss, flatten cfg sub = .ok (ls, ss)) :
    ∃ r, treeBroadcastPrefix cfg pre full = .ok r ∧
      shapeOf cfg (!cfg.insertionOrdered) r =
        (shapeOf cfg (!cfg.insertionOrdered) pre).graftN (subs.map (shapeOf cfg (!cfg.insertionOrdered))) ∧
      leavesOf cfg (!cfg.insertionOrdered) r =
        (lp.zip subs).flatMap fun p => List.replicate (leavesOf cfg (!cfg.insertionOrdered) p.2).length p.1 := by
  -- `broadcast_leaves` answers on every pair of a prefix leaf and the subtree matched with it
  obtain ⟨outs, hmap, hrel⟩ := Pairs.of_mapM (f := fun p => broadcastLeaves cfg p.1 p.2) (R := BcastRel cfg)
    (lp.zip subs) (by
      intro p hpm
      obtain ⟨h1, h2⟩ := List.of_mem_zip hpm
      obtain ⟨hw, ls, ss, hf⟩ := hsubs p.2 h2
      rw [C02_leaf_order cfg pre lp sp hfp] at h1
      exact broadcastLeaves_ok cfg hreg hp p.1 p.2 (leafLike_of_mem cfg hp _ pre hwp p.1 h1) hw ls ss hf)
  have hol : outs.length = lp.length := by
    rw [← hrel.length, List.length_zip, hlen, Nat.min_self]
  obtain ⟨r, hur, g1, g2, -⟩ := unflatten_graft cfg hreg hp pre hwp lp sp hfp outs hol
  refine ⟨r, ?_, ?_, ?_⟩
  · -- the Python layer: `tree_map(broadcast_leaves, prefix_tree, full_tree)`
    unfold treeBroadcastPrefix
    rw [treeMapGen_plain cfg _ pre [full] lp sp hfp [subs] (by rw [List.mapM_cons, hup]; rfl)
        (by simpa using hlen),
      zipArgs_pair lp subs hlen, List.map_map]
    rw [callAll_map_ok (g := fun p : PyObj × PyObj => broadcastLeaves cfg p.1 p.2) (h := hmap)
      (hf := fun _ _ => rfl)]
    exact hur
  · rw [g1, hrel.map_eq (h := shapeOf cfg (!cfg.insertionOrdered) ∘ Prod.snd) fun _ _ h => h.1,
      ← List.map_map, List.map_snd_zip (Nat.le_of_eq hlen)]
  · rw [g2, List.flatMap_def, hrel.map_eq fun _ _ h => h.2, ← List.flatMap_def]

end Optree
