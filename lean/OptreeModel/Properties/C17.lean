/-
  C17  Concurrent use from several threads is equivalent to some sequential use.
-/
import OptreeModel.Model.Threads
import OptreeModel.Properties.C12
import OptreeModel.Generated.Locks

namespace Optree

/-! ### no dead-lock when user code never runs under an engine mutex -/

/-- every thread follows the discipline from where it is, and only the running thread holds mutexes -/
structure TInv (s : TState) : Prop where
  ok : ∀ t, okProg (s.held t) (s.progs t) = true
  idle : ∀ t, t ≠ s.running → s.held t = []

theorem upd_same {α : Type} (f : Nat → α) (t : Nat) (v : α) : upd f t v t = v := if_pos rfl
theorem upd_other {α : Type} (f : Nat → α) (t u : Nat) (v : α) (h : u ≠ t) : upd f t v u = f u := if_neg h

theorem upd_self {α : Type} (f : Nat → α) (t : Nat) : upd f t (f t) = f := by
  funext i
  by_cases h : i = t
  · rw [h, upd_same]
  · rw [upd_other f t i _ h]

/-- a step changes the program and the locks of the running thread only: the invariant is kept if that thread
still follows the discipline and holds nothing when it hands over the GIL -/
theorem TInv.frame {s : TState} (h : TInv s) {progs : Nat → ThreadProg} {held : Nat → List Nat} {run : Nat}
    (hother : ∀ t, t ≠ s.running → progs t = s.progs t ∧ held t = s.held t)
    (hok : okProg (held s.running) (progs s.running) = true)
    (hidle : run ≠ s.running → held s.running = []) : TInv ⟨s.n, progs, held, run⟩ := by
  refine ⟨fun t => ?_, fun t ht => ?_⟩
  · show okProg (held t) (progs t) = true
    by_cases htr : t = s.running
    · rw [htr]; exact hok
    · rw [(hother t htr).1, (hother t htr).2]; exact h.ok t
  · show held t = []
    by_cases htr : t = s.running
    · rw [htr]; exact hidle fun hr => ht (htr.trans hr.symm)
    · rw [(hother t htr).2]; exact h.idle t htr

theorem tstep_inv (s : TState) (choice : Nat) (h : TInv s) :
    ∃ s', tstep s choice = .next s' ∧ TInv s' := by
  have hok := h.ok s.running
  cases hp : s.progs s.running with
  | nil =>
    rw [hp] at hok
    exact ⟨{ s with running := choice }, by simp [tstep, hp],
      h.frame (fun _ _ => ⟨rfl, rfl⟩) (hp ▸ hok) fun _ => List.isEmpty_iff.1 hok⟩
  | cons a rest =>
    rw [hp] at hok
    cases a with
    | acqE l =>
      simp only [okProg, Bool.and_eq_true, Bool.not_eq_true', List.contains_eq_mem,
        decide_eq_false_iff_not] at hok
      -- nobody else holds `l`: the other threads hold nothing
      have h2 : (List.range s.n).any (fun t' => t' != s.running && (s.held t').contains l) = false := by
        rw [List.any_eq_false]
        intro t' _
        by_cases ht : t' = s.running
        · simp [ht]
        · simp [h.idle t' ht]
      exact ⟨{ s with progs := upd s.progs s.running rest,
                      held := upd s.held s.running (l :: s.held s.running) },
        by simp only [tstep, hp, hok.1, if_false, h2, Bool.false_eq_true],
        h.frame (fun t ht => ⟨upd_other _ _ t _ ht, upd_other _ _ t _ ht⟩)
          (by rw [upd_same, upd_same]; exact hok.2) fun hr => absurd rfl hr⟩
    | relE l =>
      simp only [okProg, Bool.and_eq_true] at hok
      exact ⟨{ s with progs := upd s.progs s.running rest,
                      held := upd s.held s.running ((s.held s.running).erase l) },
        by simp [tstep, hp],
        h.frame (fun t ht => ⟨upd_other _ _ t _ ht, upd_other _ _ t _ ht⟩)
          (by rw [upd_same, upd_same]; exact hok.2) fun hr => absurd rfl hr⟩
    | cb =>
      simp only [okProg, Bool.and_eq_true, List.isEmpty_iff] at hok
      exact ⟨{ s with progs := upd s.progs s.running rest, running := choice }, by simp [tstep, hp],
        h.frame (fun t ht => ⟨upd_other _ _ t _ ht, rfl⟩) (by rw [upd_same, hok.1]; exact hok.2)
          fun _ => hok.1⟩
    | step =>
      simp only [okProg] at hok
      exact ⟨{ s with progs := upd s.progs s.running rest }, by simp [tstep, hp],
        h.frame (fun t ht => ⟨upd_other _ _ t _ ht, rfl⟩) (by rw [upd_same]; exact hok)
          fun hr => absurd rfl hr⟩

/-- **Dead-lock freedom.**  If every operation's lock program keeps user code out of engine-mutex
scopes (`okProg`), then no schedule — any number of threads, any switch choices, any length — reaches
a state in which a thread waits for an engine mutex while holding the GIL. -/
theorem C17_deadlock_free (s : TState) (h : TInv s) (schedule : List Nat) :
    ∃ s', trun s schedule = some s' ∧ TInv s' := by
  induction schedule generalizing s with
  | nil => exact ⟨s, rfl, h⟩
  | cons c cs ih =>
    obtain ⟨s1, h1, hi1⟩ := tstep_inv s c h
    simp only [trun, h1]
    exact ih s1 hi1

/-- the initial state: nobody holds anything, every program follows the discipline -/
theorem C17_initial_inv (n : Nat) (progs : Nat → ThreadProg) (hp : ∀ t, okProg [] (progs t) = true)
    (r : Nat) : TInv ⟨n, progs, fun _ => [], r⟩ :=
  ⟨fun t => hp t, fun _ _ => rfl⟩

/-- **the converse**: one operation that runs user code inside a mutex scope and another that takes
the same mutex dead-lock under the schedule "switch at the callback" — the replay -/
theorem C17_callback_under_lock_deadlocks (l : Nat) :
    trun ⟨2, fun t => if t = 0 then [.acqE l, .cb, .relE l] else if t = 1 then [.acqE l, .relE l] else [],
          fun _ => [], 0⟩ [0, 1, 1] = Option.none := by
  simp [trun, tstep, upd, List.range, List.range.loop]

example : okProg [] [.acqE 0, .step, .relE 0, .cb, .acqE 1, .relE 1] = true := by decide
example : okProg [] [.acqE 0, .cb, .relE 0] = false := by decide

/-! ### obligation regenerated from the source on every run -/

/-- no engine-mutex scope in src/ or include/ contains a call that can re-enter Python (translator `locks`):
every lock program satisfies the discipline `C17_deadlock_free` needs -/
theorem C17_no_callback_under_engine_lock :
    Generated.lockProgs.all (fun p => okProg [] p.2) = true ∧ Generated.lockProgs.length ≥ 15 := by
  decide

/-- the scopes `locks` found cover the registry, the classification caches, the hash / repr guards
and the dict-order table -/
theorem C17_lock_scopes_found :
    ["src/registry.cpp:Lookup", "src/treespec/hashing.cpp:HashValue", "src/treespec/serialization.cpp:ToString",
     "include/optree/pytypes.h:IsNamedTupleClass", "include/optree/treespec.h:IsDictInsertionOrdered"].all
      (fun n => Generated.lockScopes.any (·.1 == n)) = true := by
  -- each name occurs in the table: `x == x` closes its disjunction, no two strings are compared
  simp only [Generated.lockScopes, List.all_cons, List.all_nil, List.any_cons, beq_self_eq_true, Bool.or_true,
    Bool.true_or, Bool.and_self]

/-! ### concurrent registrations of one (type, namespace)

`register_pytree_node` holds the Python registry lock and the engine write lock for the whole call and
(given the discipline above) runs no user code inside, so two concurrent calls are two calls in some
order.  In either order exactly one succeeds. -/

theorem C17_register_once (info : Nat → ClsInfo) (w : Bool) (s : RState) (i j : Nat) (c : Nat)
    (ns : RNs) (bad : Bool) (h : (rstep info w s i (.reg c ns bad)).2 = Option.none) :
    (rstep info w (rstep info w s i (.reg c ns bad)).1 j (.reg c ns bad)).2.isSome = true := by
  apply C12_no_double
  rw [rstep_of_passes (rstep_passes.1 h)]
  exact RTable.find_append_self

/-! ### a shared iterator hands each leaf to exactly one consumer -/

/-- the leaves inside the nodes the consumers `cs` are holding -/
def IterState.pendingOf (inflight : Nat → Option ITree) (cs : List Nat) : List Nat :=
  cs.flatMap fun c => match inflight c with | some x => x.leaves | Option.none => []

theorem leavesList_append (xs ys : List ITree) :
    ITree.leavesList (xs ++ ys) = ITree.leavesList xs ++ ITree.leavesList ys := by
  induction xs with
  | nil => simp [ITree.leavesList]
  | cons x xs ih => simp [ITree.leavesList, ih]

theorem pendingOf_upd_notin (f : Nat → Option ITree) (c : Nat) (v : Option ITree) (cs : List Nat)
    (h : c ∉ cs) : IterState.pendingOf (upd f c v) cs = IterState.pendingOf f cs := by
  unfold IterState.pendingOf
  rw [List.flatMap_def, List.flatMap_def]
  refine congrArg List.flatten (List.map_congr_left fun d hd => ?_)
  rw [upd_other f c d v fun e => h (e ▸ hd)]

/-- leaves accounted for: delivered, on the agenda, or held by one of the consumers `cs` -/
def IterState.account (s : IterState) (cs : List Nat) : List Nat :=
  s.delivered.map (·.2) ++ ITree.leavesList s.agenda ++ IterState.pendingOf s.inflight cs

theorem pendingOf_perm_upd (f : Nat → Option ITree) (c : Nat) (cs : List Nat) (hn : cs.Nodup)
    (hc : c ∈ cs) (v : Option ITree) :
    (IterState.pendingOf (upd f c v) cs).Perm
      ((match v with | some x => x.leaves | Option.none => []) ++
        IterState.pendingOf (upd f c Option.none) cs) := by
  -- bring `c` to the front; the entries of the other consumers are not updated
  have front : ∀ w, (IterState.pendingOf (upd f c w) cs).Perm
      ((match w with | some x => x.leaves | Option.none => []) ++ IterState.pendingOf f (cs.erase c)) :=
    fun w => by
      refine (List.Perm.flatMap_right _ (List.perm_cons_erase hc)).trans ?_
      rw [List.flatMap_cons, upd_same]
      exact List.Perm.of_eq (congrArg _ (pendingOf_upd_notin f c w _ hn.not_mem_erase))
  exact (front v).trans ((front Option.none).symm.append_left _)

theorem istep_account (s : IterState) (cs : List Nat) (hn : cs.Nodup) (c : Nat) (hc : c ∈ cs) :
    ((istep s c).account cs).Perm (s.account cs) := by
  -- the leaves `c` holds, taken out of the pending ones: after the move (`out`) and before it (`hold`)
  have out := pendingOf_perm_upd s.inflight c cs hn hc
  have hold := out (s.inflight c)
  rw [upd_self] at hold
  unfold istep
  cases hi : s.inflight c with
  | none =>
    cases ha : s.agenda with
    | nil => exact List.Perm.refl _
    | cons x rest =>
      rw [hi] at hold
      simp only [IterState.account, ha, ITree.leavesList, List.append_assoc]
      exact ((((out (some x)).append_left _).trans (List.perm_append_comm_assoc ..)).trans
        ((hold.symm.append_left _).append_left _)).append_left _
  | some x =>
    rw [hi] at hold
    cases x with
    | leaf n =>
      simp only [IterState.account, List.map_append, List.map_cons, List.map_nil, List.append_assoc]
      exact ((List.perm_append_comm_assoc ..).trans (hold.symm.append_left _)).append_left _
    | node ch =>
      simp only [IterState.account, leavesList_append, List.append_assoc]
      exact ((List.perm_append_comm_assoc ..).trans (hold.symm.append_left _)).append_left _

theorem irun_account (cs : List Nat) (hn : cs.Nodup) (schedule : List Nat) (hs : ∀ c ∈ schedule, c ∈ cs)
    (s : IterState) : ((irun s schedule).account cs).Perm (s.account cs) :=
  List.foldlRecOn schedule istep (motive := fun s' => (s'.account cs).Perm (s.account cs)) (.refl _)
    fun s' hs' c hc => (istep_account s' cs hn c (hs c hc)).trans hs'

theorem pendingOf_none {f : Nat → Option ITree} (h : ∀ c, f c = Option.none) (cs : List Nat) :
    IterState.pendingOf f cs = [] := by
  simp [IterState.pendingOf, h]

/-- **Exactly once.**  However the moves of the consumers interleave (switches at every `is_leaf`
call), the leaves delivered so far, those still on the agenda and those inside nodes held by
consumers are together a permutation of the leaves of the tree: no leaf is lost, none is delivered
twice. -/
theorem C17_iterator_exactly_once (t : ITree) (cs : List Nat) (hn : cs.Nodup) (schedule : List Nat)
    (hs : ∀ c ∈ schedule, c ∈ cs) :
    ((irun ⟨[t], fun _ => Option.none, []⟩ schedule).account cs).Perm t.leaves := by
  refine (irun_account cs hn schedule hs _).trans ?_
  simp [IterState.account, ITree.leavesList, pendingOf_none]

/-- when the run is over (agenda empty, nobody holds a node) the delivered leaves are exactly the
leaves of the tree, each once -/
theorem C17_iterator_complete (t : ITree) (cs : List Nat) (hn : cs.Nodup) (schedule : List Nat)
    (hs : ∀ c ∈ schedule, c ∈ cs)
    (hdone : (irun ⟨[t], fun _ => Option.none, []⟩ schedule).agenda = [] ∧
      ∀ c, (irun ⟨[t], fun _ => Option.none, []⟩ schedule).inflight c = Option.none) :
    ((irun ⟨[t], fun _ => Option.none, []⟩ schedule).delivered.map (·.2)).Perm t.leaves := by
  have h := C17_iterator_exactly_once t cs hn schedule hs
  simpa [IterState.account, hdone.1, pendingOf_none hdone.2, ITree.leavesList] using h

end Optree
