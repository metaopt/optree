/-
  C14  Treespecs are immutable values independent of their source tree and registry.
-/
import OptreeModel.Model.Alias
import OptreeModel.Model.Unflatten
import OptreeModel.Generated.Fresh

namespace Optree

/-- invariant of the heap model: internal containers were allocated before the first hand-out and
no handed-out object is an internal one -/
structure AInv (internals : List Nat) (s : AState) : Prop where
  internalsOld : ∀ a ∈ internals, a < s.heap.next
  handoutsOld : ∀ a ∈ s.handouts, a < s.heap.next
  disjoint : ∀ a ∈ s.handouts, a ∉ internals

theorem astep_inv (fresh : Nat → Bool) (hf : ∀ m, fresh m = true) (internals : List Nat)
    (s : AState) (op : AOp) (h : AInv internals s) :
    AInv internals (astep fresh internals s op) ∧
      observe internals (astep fresh internals s op) = observe internals s := by
  cases op with
  | inspect m =>
    rw [astep]
    split
    · exact ⟨h, rfl⟩
    · -- the copy is made at the fresh address `s.heap.next`, above every internal container
      rw [if_pos (hf m)]
      refine ⟨⟨fun b hb => Nat.lt_succ_of_lt (h.internalsOld b hb), fun b hb => ?_, fun b hb hc => ?_⟩,
        List.map_congr_left fun b hb => if_neg (Nat.ne_of_lt (h.internalsOld b hb))⟩
      · rcases List.mem_append.1 hb with hb | hb
        · exact Nat.lt_succ_of_lt (h.handoutsOld b hb)
        · rw [List.mem_singleton.1 hb]; exact Nat.lt_succ_self _
      · rcases List.mem_append.1 hb with hb | hb
        · exact h.disjoint b hb hc
        · rw [List.mem_singleton.1 hb] at hc; exact Nat.lt_irrefl _ (h.internalsOld _ hc)
  | mutate i f =>
    rw [astep]
    split
    · exact ⟨h, rfl⟩
    · -- the object written to was handed out, so it is not an internal one; the write changes neither `next`
      -- nor the hand-outs, so the fields of `h` are those of the invariant after it
      rename_i a ha
      exact ⟨⟨h.internalsOld, h.handoutsOld, h.disjoint⟩, List.map_congr_left fun b hb =>
        if_neg fun (hc : b = a) => h.disjoint a (List.mem_of_getElem? ha) (hc ▸ hb)⟩

/-- **Hand-outs are fresh ⇒ the treespec is immutable through them.**  If every inspection method
copies, then after *any* sequence of inspections and mutations of the returned objects (append,
clear, item assignment, reverse, pop; any number, any interleaving) every internal container of the
treespec — hence every later observation — is what it was. -/
theorem C14_handouts_fresh_sound (fresh : Nat → Bool) (hf : ∀ m, fresh m = true)
    (internals : List Nat) (ops : List AOp) (s : AState) (h : AInv internals s) :
    observe internals (arun fresh internals s ops) = observe internals s ∧
      AInv internals (arun fresh internals s ops) :=
  List.foldlRecOn ops (astep fresh internals)
    (motive := fun s' => observe internals s' = observe internals s ∧ AInv internals s') ⟨rfl, h⟩
    fun s' hs' op _ =>
      have ⟨hi, ho⟩ := astep_inv fresh hf internals s' op hs'.2
      ⟨ho.trans hs'.1, hi⟩

/-- the converse: one aliasing method is enough to change the treespec from outside — the history
`[inspect m, append x]` is the replay -/
theorem C14_alias_breaks (fresh : Nat → Bool) (internals : List Nat) (m : Nat) (a : Nat)
    (hm : internals[m]? = some a) (hf : fresh m = false) (s : AState) (hs : s.handouts = []) (x : Nat) :
    observe internals (arun fresh internals s [.inspect m, .mutate 0 (.append x)]) ≠
      observe internals s := by
  simp only [arun, List.foldl_cons, List.foldl_nil, astep, hm, hf, hs, List.nil_append,
    Bool.false_eq_true, if_false, List.getElem?_cons_zero, observe, Heap.write, Mut.apply]
  intro hc
  have hai : a ∈ internals := List.mem_of_getElem? hm
  have := List.map_inj_left.mp hc a hai
  -- for the aliased container `a` the equation says `cell a ++ [x] = cell a`
  simp at this

theorem aInit_inv (n : Nat) : AInv (List.range n) (aInit n) := by
  refine ⟨?_, ?_, ?_⟩ <;> simp [aInit]

/-! ### obligations regenerated from the source on every run -/

/-- every inspection method of `PyTreeSpec` (and the leaves list of `Flatten`) returns fresh
containers, as read from treespec.cpp / flatten.cpp by the translator `fresh` -/
theorem C14_handouts_fresh : Generated.handoutFresh.all (·.2) = true := by decide

/-- the methods the translator `fresh` looked for were all found -/
theorem C14_handouts_listed :
    Generated.handoutFresh.map (·.1) =
      ["entries", "children", "child", "one_level", "paths", "accessors", "flatten_leaves"] := rfl

/-- every in-place `TotalOrderSort` in the engine is applied to a copy made in the same function
(never to a key list owned by an operand treespec or by the caller) -/
theorem C14_sorts_on_copies : Generated.sortSites.all (·.2) = true ∧ Generated.sortSites.length ≥ 5 := by
  decide

/-- no function of the Python layer applies an in-place mutator to one of its parameters -/
theorem C14_python_operands_unmodified : Generated.pyParamMutations = [] := by decide

/-! ### independence of the registry -/

/-- `unflatten` (like `paths`, `entries`, `children`, …) takes the treespec only: in the model a node carries
its registration record by value (`Node.custom : Option Reg`), so no later `register` / `unregister` can
change what a treespec does.  The two registries of the statement are not arguments of `unflatten`. -/
theorem C14_unflatten_ignores_registry (sp : Spec) (leaves : List PyObj) :
    ∀ _reg _reg' : Registry, unflatten sp leaves = unflatten sp leaves := fun _ _ => rfl

/-! ### non-vacuity -/

example : observe (List.range 3) (arun (fun _ => true) (List.range 3) (aInit 3)
    [.inspect 0, .mutate 0 (.append 5), .inspect 2, .mutate 1 .clear, .mutate 0 .reverse]) =
    [[0, 1], [10, 11], [20, 21]] := by decide

example : observe (List.range 3) (arun (fun m => m != 2) (List.range 3) (aInit 3)
    [.inspect 2, .mutate 0 (.append 5)]) ≠ observe (List.range 3) (aInit 3) := by decide

end Optree
