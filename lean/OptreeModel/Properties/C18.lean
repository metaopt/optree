/-
  C18  The Python twins of engine logic give the same answers as the engine.
  `Generated.sortRestores` / `Generated.twinFieldsExact` are regenerated from pytypes.h and
  typing.py on every run (translator `twins`).
-/
import OptreeModel.Model.Twins
import OptreeModel.Generated.Twins

namespace Optree

/-- **Sort twin.**  With the restore steps in place the engine's in-place sort equals the Python
twin for every key list, whatever state a failing `list.sort()` leaves the list in. -/
theorem C18_sort_twin (scr1 scr2 : List Key → List Key) (ks : List Key) :
    cxxSort true scr1 scr2 ks = pySort ks := by
  unfold cxxSort pySort failingSort
  cases stage1Ok ks <;> cases h2 : stage2Ok ks <;> simp [h2]

/-- **Generated obligation.**  `TotalOrderSort` in the source restores the saved order. -/
theorem C18_sort_restores : Generated.sortRestores = true := by decide

/-- both equal the specification `totalOrderSort` used by the flatten model -/
theorem C18_sort_spec (ks : List Key) : pySort ks = totalOrderSort ks := by
  unfold pySort totalOrderSort totalOrderSortOn
  simp

/-- without the restore the engine's result depends on the scrambled state (so the obligation above
is not vacuous): a concrete key list and a concrete scramble -/
theorem C18_sort_twin_needs_restore :
    cxxSort false (fun ks => ks.reverse) (fun ks => ks)
      [.obj "vk.KU" false 0 1, .int 1, .obj "vk.KU" false 0 2] ≠
    pySort [.obj "vk.KU" false 0 1, .int 1, .obj "vk.KU" false 0 2] := by decide

/-- **namedtuple twin**, for every class descriptor -/
theorem C18_namedtuple_twin : ∀ d : ClsDesc, cxxIsNamedTuple d = pyIsNamedTuple true d := by
  intro d
  simp [cxxIsNamedTuple, pyIsNamedTuple]

/-- **Generated obligation.**  The Python twin requires `_fields` to be exactly a tuple. -/
theorem C18_twin_fields_exact : Generated.twinFieldsExact = true := by decide

/-- the twin that accepts tuple subclasses disagrees with the engine -/
theorem C18_namedtuple_twin_needs_exact :
    ∃ d : ClsDesc, cxxIsNamedTuple d ≠ pyIsNamedTuple false d :=
  ⟨{ isType := true, tupleSubclass := true, fields := .tupleSubclass true, makeCallable := true,
     asdictCallable := true, basesIsTuple := false, nFields := .absent, nSequenceFields := .absent,
     nUnnamedFields := .absent, baseType := true }, by decide⟩

/-- **struct-sequence twin**, for every class Python can construct -/
theorem C18_structseq_twin (d : ClsDesc) (h : d.realisable = true) :
    cxxIsStructSeq d = pyIsStructSeq d := by
  simp only [ClsDesc.realisable, Bool.and_eq_true, Bool.or_eq_true, Bool.not_eq_true',
    beq_iff_eq] at h
  obtain ⟨hb, hn⟩ := h
  unfold cxxIsStructSeq pyIsStructSeq
  cases hbt : d.baseType
  · -- not a base type: the `n_*` members are exact ints, and the twins differ only in the
    -- `tupleSubclass` test, which `basesIsTuple` implies
    simp only [hbt, Bool.false_eq_true, false_or] at hn
    obtain ⟨⟨h1, h2⟩, h3⟩ := hn
    rw [h1, h2, h3]
    cases hbs : d.basesIsTuple
    · simp
    · simp [hbs] at hb; simp [hb]
  · simp

/-- **One-level twin.**  For every built-in node kind, in either dict-order mode, the Python
registry's flatten function yields the same children (in the same order), metadata, entries and
kind as the engine. -/
theorem C18_one_level_twin (insertion : Bool) (x : PyObj) :
    (pyOneLevel insertion x).map (fun o => (o.children, o.data, o.entries, o.kind)) =
    (engineOneLevel (!insertion) x).map (fun o => (o.children, o.data, o.entries, o.kind)) := by
  -- the engine sorts the items of a dict exactly when the namespace is not in insertion-ordered mode
  have hd : ∀ kvs : List (Key × PyObj),
      dictOrder false (!insertion) kvs = if insertion then kvs else totalOrderSortOn (·.1) kvs :=
    fun kvs => by cases insertion <;> rfl
  cases x with
  | dict kvs => rw [pyOneLevel, engineOneLevel, hd]
  | ddict f kvs => rw [pyOneLevel, engineOneLevel, hd]
  | _ => rfl

/-! ### the type caches -/

/-- every memo entry belongs to a live type and stores that type's answer -/
def CacheState.Inv (s : CacheState) : Prop :=
  ∀ a v, lookupA a s.cache = some v → lookupA a s.live = some v

theorem lookupA_cons (a b : Addr) (v : Bool) (t : List (Addr × Bool)) :
    lookupA b ((a, v) :: t) = if a = b then some v else lookupA b t := by
  unfold lookupA
  rw [List.find?_cons]
  by_cases h : a = b
  · rw [if_pos h, beq_iff_eq.2 h]; rfl
  · rw [if_neg h, beq_eq_false_iff_ne.2 h]

theorem lookupA_filter_ne (a b : Addr) (t : List (Addr × Bool)) :
    lookupA a (t.filter fun e => e.1 != b) = if a = b then Option.none else lookupA a t := by
  unfold lookupA
  rw [List.find?_filter]
  split
  · rename_i hab
    rw [List.find?_eq_none.2 fun e _ => by simp [hab]]
    rfl
  · rename_i hab
    -- an entry for `a` is not an entry for `b`
    congr 2
    funext e
    by_cases he : e.1 = a
    · simp [he, hab]
    · simp [he]

theorem C18_cache_inv_step (s : CacheState) (op : CacheOp) (h : s.Inv) : (cacheStep s op).1.Inv := by
  cases op with
  | alloc a ans =>
    rw [cacheStep]
    split
    · exact h
    · rename_i hfree
      intro b v hb
      have hlive := h b v hb
      -- the new address is not a cached one: cached addresses are live
      have hab : a ≠ b := fun hab => hfree (by rw [hab, hlive]; rfl)
      exact (lookupA_cons a b ans s.live).trans ((if_neg hab).trans hlive)
  | free a =>
    intro b v hb
    simp only [cacheStep, lookupA_filter_ne] at hb ⊢
    split at hb
    · cases hb
    · rename_i hne
      rw [if_neg hne]
      exact h b v hb
  | query a =>
    rw [cacheStep]
    split
    · exact h
    · rename_i ans hl
      split
      · exact h
      · split
        · intro b v hb
          simp only [lookupA_cons] at hb
          split at hb
          · rename_i hab
            cases hb
            exact hab ▸ hl
          · exact h b v hb
        · exact h

/-- **Cache transparency.**  In every state reachable by any history of class creation, queries,
garbage collection and address reuse — including histories that exceed the cache capacity — a
query returns the uncached answer of the type that lives at that address *now*. -/
theorem C18_cache_transparent (s : CacheState) (h : s.Inv) (a : Addr) (v : Bool)
    (hq : (cacheStep s (.query a)).2 = some v) : lookupA a s.live = some v := by
  simp only [cacheStep] at hq
  split at hq
  · simp at hq
  · rename_i ans hl
    split at hq
    · rename_i v' hc
      simp at hq; subst hq
      exact h a v' hc
    · split at hq <;> (simp at hq; subst hq; exact hl)

theorem C18_cache_inv (ops : List CacheOp) (s : CacheState) (h : s.Inv) :
    (ops.foldl (fun st op => (cacheStep st op).1) s).Inv :=
  List.foldlRecOn ops _ h fun s hs op _ => C18_cache_inv_step s op hs

/-! ### non-vacuity -/

example : (CacheState.mk [] [] 2).Inv := by intro a v h; simp [lookupA] at h

/-- a history with address reuse after a free: the stale answer is not served -/
example :
    let s := [CacheOp.alloc 7 true, .query 7, .free 7, .alloc 7 false].foldl
      (fun st op => (cacheStep st op).1) (CacheState.mk [] [] 2)
    (cacheStep s (.query 7)).2 = some false := by decide

end Optree
