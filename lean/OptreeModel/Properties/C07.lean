/-
  C07  Prefix matching is exact and its three implementations agree.
-/
import OptreeModel.Model.Compare
import OptreeModel.Lemmas.EncPrefix
import OptreeModel.Lemmas.EncFlatten
import OptreeModel.Lemmas.UpToPrefix
import OptreeModel.Lemmas.PrefixOrder
import OptreeModel.Lemmas.PrefixErrors

namespace Optree

def C07_leafSpec (nil : Bool) : Spec := { nodes := [Node.leaf], noneIsLeaf := nil, ns := "" }

/-- `is_prefix` is `False` (never an error) for mismatching `none_is_leaf`, conflicting namespaces,
or a prefix candidate with more nodes -/
theorem C07_guards (a b : Spec) (strict : Bool) (hs : a.sane = true ∧ b.sane = true)
    (h : a.noneIsLeaf ≠ b.noneIsLeaf ∨ nsCompatible a.ns b.ns = false ∨ a.numNodes > b.numNodes) :
    isPrefix a b strict = .ok false := by
  unfold isPrefix
  simp only [hs.1, hs.2, Bool.not_true, Bool.or_self, Bool.false_eq_true, if_false]
  rcases h with h | h | h
  · simp [h]
  · by_cases hn : a.noneIsLeaf = b.noneIsLeaf <;> simp [hn, h]
  · by_cases hn : a.noneIsLeaf = b.noneIsLeaf
    · by_cases hc : nsCompatible a.ns b.ns = true <;> simp [hn, hc, h]
    · simp [hn]

/-- **A leaf is a prefix of every treespec** with the same `none_is_leaf`; strictly so exactly when
the other treespec is not a leaf itself -/
theorem C07_leaf_is_prefix (b : Spec) (hb : b.sane = true) (strict : Bool) :
    isPrefix (C07_leafSpec b.noneIsLeaf) b strict =
      .ok (!strict || !(b.kind == .leaf)) := by
  -- `b` is sane: its last record, the first of the reversed array, counts the whole array
  obtain ⟨root, rest, hrev, hnum⟩ : ∃ root rest, b.nodes.reverse = root :: rest ∧ root.numNodes = b.nodes.length := by
    rw [Spec.sane, ← List.head?_reverse] at hb
    cases h : b.nodes.reverse with
    | nil => rw [h] at hb; cases hb
    | cons root rest => rw [h] at hb; exact ⟨root, rest, rfl, beq_iff_eq.mp hb⟩
  have hlen : (root :: rest).length = root.numNodes := by rw [← hrev, List.length_reverse, hnum]
  have hkind : b.kind = root.kind := by rw [Spec.kind, ← List.head?_reverse, hrev]; rfl
  have hsize : ¬ ((C07_leafSpec b.noneIsLeaf).numNodes > b.numNodes) := by
    show ¬ (1 > b.nodes.length)
    rw [← hnum, ← hlen]; simp
  have h0 : ¬ ((root.numNodes == 0 || decide ((root :: rest).length < root.numNodes)) = true) := by
    rw [hlen, ← hlen]; simp
  have hs : (C07_leafSpec b.noneIsLeaf).sane = true := rfl
  rw [isPrefix, hs, hb, if_neg (by decide), if_neg (by simp [C07_leafSpec]), if_neg (by simp [C07_leafSpec, nsCompatible]),
    if_neg hsize, hrev]
  show isPrefixGo strict [Node.leaf] (root :: rest) true = _
  rw [isPrefixGo_leaf, if_neg h0, ← hlen, List.drop_length, isPrefixGo, hkind]
  rfl

/-- `flatten_up_to` with the leaf treespec returns the whole tree as the single "leaf" -/
theorem C07_flatten_up_to_leaf (reg : Registry) (nil : Bool) (t : PyObj) :
    flattenUpTo reg { nodes := [Node.leaf], noneIsLeaf := nil, ns := "" } t = .ok [t] :=
  flattenUpTo_enc reg .leaf rfl nil "" t

/-- a tuple treespec never accepts a list: `ValueError`, not another exception -/
theorem C07_kind_mismatch_value_error (reg : Registry) (nil : Bool) (ns : String) (n : Nat)
    (node : Node) (hk : node.kind = .tuple) (nodes : List Node) (xs : List PyObj)
    (agenda acc : List PyObj) :
    flattenUpToGo reg nil ns n (node :: nodes) (.list xs :: agenda) acc = .error .value := by
  have hk' : node.info.kind = .tuple := hk
  rw [flattenUpToGo_node _ _ _ _ _ _ _ _ (by rw [hk]; nofun), matchNode, matchNodeK, hk']
  rfl

/-- a `dict` treespec node tests the key *set* of an OrderedDict or defaultdict object as it does for a dict: an
object with a different key set is rejected with `ValueError` -/
theorem C07_dict_keyset_mismatch (reg : Registry) (nil : Bool) (ns : String) (n : Nat)
    (node : Node) (hk : node.kind = .dict) (nodes : List Node) (kvs : List (Key × PyObj))
    (agenda acc : List PyObj) (hne : keySetEq node.keys (kvs.map (·.1)) = false) :
    flattenUpToGo reg nil ns n (node :: nodes) (.odict kvs :: agenda) acc = .error .value ∧
    flattenUpToGo reg nil ns n (node :: nodes) (.ddict Option.none kvs :: agenda) acc = .error .value := by
  have hk' : node.info.kind = .dict := hk
  have hne' : keySetEq node.info.keys (kvs.map (·.1)) = false := hne
  have hgo : ∀ t, dictItems? t = some kvs →
      flattenUpToGo reg nil ns n (node :: nodes) (t :: agenda) acc = .error .value := by
    intro t ht
    rw [flattenUpToGo_node _ _ _ _ _ _ _ _ (by rw [hk]; nofun)]
    unfold matchNode matchNodeK matchDictK
    simp only [hk', ht, hne']
    rfl
  exact ⟨hgo _ rfl, hgo _ rfl⟩

/-! ### refinement: the array walk of `IsPrefix` decides the tree-level prefix relation

`STree.prefixB` (Model/STree.lean) is the relation the property describes, as a structural
recursion over shapes: a leaf is a prefix of anything; a `None` / tuple / list / deque node matches a
node of the same kind and arity (whatever the deque's `maxlen`); namedtuple / struct-sequence /
custom nodes additionally need the same class / metadata and the same registration; the three dict
kinds match one another when their key *sets* agree, the children being paired **by key**.
`STree.sameB` says that no leaf of the first sits over an internal node of the second. -/

/-- **`is_prefix` / `<=` / `<` on treespecs decide exactly the tree-level prefix relation**, for all
well-formed shapes of any size, any nesting of dict nodes whose key orders differ, and any
`none_is_leaf` / namespace combination.  (Pinned tree before `fix: 077e6b2`: false — nested
re-orderings with unequal sub-tree sizes.) -/
theorem C07_is_prefix_refines (a b : STree) (ha : a.wf = true) (hb : b.wf = true)
    (nil nil' : Bool) (ns ns' : String) (strict : Bool) :
    isPrefix (a.spec nil ns) (b.spec nil' ns') strict =
      .ok (nil == nil' && nsCompatible ns ns' && a.prefixB b && (!strict || !a.sameB b)) := by
  have hgo : isPrefixGo strict a.enc.reverse b.enc.reverse true =
      if a.prefixB b then .ok (!strict || !a.sameB b) else .ok false := by
    have := isPrefixGo_enc strict a ha b hb [] [] true
    rwa [List.append_nil, List.append_nil, isPrefixGo, Bool.true_and] at this
  rw [isPrefix, STree.spec_sane, STree.spec_sane, STree.spec_numNodes, STree.spec_numNodes, if_neg (by decide)]
  show (if (nil != nil') = true then _ else if (!nsCompatible ns ns') = true then _ else if a.size > b.size then _
    else isPrefixGo strict a.enc.reverse b.enc.reverse true) = _
  rw [hgo]
  cases hp : a.prefixB b
  · -- not a prefix: every branch answers `False`
    simp only [Bool.false_eq_true, if_false, ite_self, Bool.and_false, Bool.false_and]
  · -- a prefix is not larger, so the size test passes
    rw [if_neg (Nat.not_lt.mpr (STree.prefixB_size a ha b hb hp))]
    cases nil <;> cases nil' <;> cases nsCompatible ns ns' <;> rfl

/-- non-strict form: `a <= b` / `a.is_prefix(b)` -/
theorem C07_is_prefix_iff (a b : STree) (ha : a.wf = true) (hb : b.wf = true) (nil : Bool)
    (ns : String) :
    isPrefix (a.spec nil ns) (b.spec nil ns) false = .ok (a.prefixB b) := by
  rw [C07_is_prefix_refines a b ha hb]
  simp [nsCompatible]

theorem isPrefix_spec_iff (a b : STree) (ha : a.wf = true) (hb : b.wf = true) (nil : Bool) (ns : String) :
    isPrefix (a.spec nil ns) (b.spec nil ns) false = .ok true ↔ a.prefixB b = true := by
  rw [C07_is_prefix_iff a b ha hb, Except.ok.injEq]

/-- strict form: `a < b` iff `a` is a prefix of `b` and some leaf of `a` covers an internal node -/
theorem C07_is_prefix_strict_iff (a b : STree) (ha : a.wf = true) (hb : b.wf = true) (nil : Bool)
    (ns : String) :
    isPrefix (a.spec nil ns) (b.spec nil ns) true = .ok (a.prefixB b && !a.sameB b) := by
  rw [C07_is_prefix_refines a b ha hb]
  simp [nsCompatible]

/-- the walk never raises (no `InternalError`) on encodings of well-formed shapes -/
theorem C07_is_prefix_total (a b : STree) (ha : a.wf = true) (hb : b.wf = true)
    (nil nil' : Bool) (ns ns' : String) (strict : Bool) :
    ∃ r, isPrefix (a.spec nil ns) (b.spec nil' ns') strict = .ok r :=
  ⟨_, C07_is_prefix_refines a b ha hb nil nil' ns ns' strict⟩

/-- a prefix never has more nodes (so the size guard of `IsPrefix` never changes the answer) -/
theorem C07_prefix_not_larger (a b : STree) (ha : a.wf = true) (hb : b.wf = true)
    (h : a.prefixB b = true) : a.size ≤ b.size := STree.prefixB_size a ha b hb h

/-- the same for treespecs made by flattening any two well-formed trees under one configuration: they
are encodings of well-formed shapes (`flatten_isEnc`), so `is_prefix` decides the prefix relation of
their shapes -/
theorem C07_is_prefix_of_flatten (cfg : Cfg) (t u : PyObj) (ht : t.wf = true) (hu : u.wf = true)
    (lt lu : List PyObj) (st su : Spec) (h1 : flatten cfg t = .ok (lt, st)) (h2 : flatten cfg u = .ok (lu, su))
    (strict : Bool) :
    ∃ a b : STree, a.wf = true ∧ b.wf = true ∧ lt.length = a.leaves ∧ lu.length = b.leaves ∧
      isPrefix st su strict = .ok (nsCompatible st.ns su.ns && a.prefixB b && (!strict || !a.sameB b)) := by
  obtain ⟨a, ha, ea, la⟩ := flatten_isEnc cfg t ht lt st h1
  obtain ⟨b, hb, eb, lb⟩ := flatten_isEnc cfg u hu lu su h2
  refine ⟨a, b, ha, hb, la, lb, ?_⟩
  rw [ea, eb, C07_is_prefix_refines a b ha hb]
  simp [STree.spec]

/-! ### `flatten_up_to` and its agreement with `is_prefix`

`STree.upTo` (Lemmas/EncUpTo.lean) matches a tree against a shape by structural recursion and returns
the sub-trees sitting at the shape's leaves; `shapeOf` (Lemmas/ShapeOf.lean) is the shape `flatten`
assigns to a tree. -/

/-- **`flatten_up_to` on an encoding is the structural match** (agenda machine of `FlattenUpTo`,
reversed array, children pushed in reverse), for every shape and every tree -/
theorem C07_flatten_up_to_refines (reg : Registry) (a : STree) (ha : a.wf = true) (nil : Bool)
    (ns : String) (t : PyObj) : flattenUpTo reg (a.spec nil ns) t = a.upTo reg nil ns t :=
  flattenUpTo_enc reg a ha nil ns t

/-- on success there is exactly one result per leaf of the shape -/
theorem C07_flatten_up_to_count (reg : Registry) (a : STree) (ha : a.wf = true) (nil : Bool)
    (ns : String) (t : PyObj) (ls : List PyObj) (h : flattenUpTo reg (a.spec nil ns) t = .ok ls) :
    ls.length = (a.spec nil ns).numLeaves := by
  rw [C07_flatten_up_to_refines reg a ha] at h
  rw [STree.spec_numLeaves]
  exact STree.upTo_length reg nil ns a t ls h

/-- **matching a tree against a shape succeeds exactly when the shape is a prefix of the tree's own
shape** — for every shape that fits the registry (`STree.good`: what `flatten` and the constructors
build) and every well-formed tree; dict kinds interchangeable, children paired by key, deques
regardless of `maxlen`, registrations identical -/
theorem C07_up_to_iff_prefix (cfg : Cfg) (s : Bool) (a : STree) (ha : a.wf = true)
    (hg : a.good cfg.reg cfg.ns = true) (t : PyObj) (ht : t.wf = true) :
    okB (flattenUpTo cfg.reg (a.spec cfg.noneIsLeaf cfg.ns) t) = a.prefixB (shapeOf cfg s t) := by
  rw [C07_flatten_up_to_refines cfg.reg a ha]
  exact upTo_iff_prefix cfg s a ha hg t ht

/-- **the two engine implementations of the prefix test agree**: for a prefix treespec made by
flattening `p` and any tree `t` (same configuration, no predicate), `flatten_up_to(p_spec, t)` succeeds
iff `p_spec.is_prefix(tree_structure(t))` -/
theorem C07_flatten_up_to_agrees_with_is_prefix (cfg : Cfg) (hp : cfg.pred = Option.none) (p t : PyObj)
    (hpw : p.wf = true) (htw : t.wf = true) (lp lt : List PyObj) (sp st : Spec)
    (h1 : flatten cfg p = .ok (lp, sp)) (h2 : flatten cfg t = .ok (lt, st)) (hns : sp.ns = cfg.ns) :
    okB (flattenUpTo cfg.reg sp t) = true ↔ isPrefix sp st false = .ok true := by
  have hc : nsCompatible sp.ns st.ns = true := by
    rcases (flatten_ns h2).1 with h | h <;> simp [nsCompatible, hns, h]
  rw [flattenUpTo_iff_prefix cfg hp p t hpw htw lp sp h1 hns, (flatten_shapeOf cfg hp p hpw lp sp h1).1,
    (flatten_shapeOf cfg hp t htw lt st h2).1,
    C07_is_prefix_refines _ _ (wg cfg _ p hpw).1 (wg cfg _ t htw).1, hc]
  simp

/-- in the global namespace the side condition on the recorded namespace is void -/
theorem C07_flatten_up_to_agrees_with_is_prefix_global (cfg : Cfg) (hp : cfg.pred = Option.none)
    (hns : cfg.ns = "") (p t : PyObj) (hpw : p.wf = true) (htw : t.wf = true) (lp lt : List PyObj)
    (sp st : Spec) (h1 : flatten cfg p = .ok (lp, sp)) (h2 : flatten cfg t = .ok (lt, st)) :
    okB (flattenUpTo cfg.reg sp t) = true ↔ isPrefix sp st false = .ok true := by
  apply C07_flatten_up_to_agrees_with_is_prefix cfg hp p t hpw htw lp lt sp st h1 h2
  rcases (flatten_ns h1).1 with h | h
  · exact h
  · rw [h, hns]

/-! ### order laws -/

/-- `spec <= spec` -/
theorem C07_is_prefix_refl (a : STree) (ha : a.wf = true) (nil : Bool) (ns : String) :
    isPrefix (a.spec nil ns) (a.spec nil ns) false = .ok true :=
  (isPrefix_spec_iff a a ha ha nil ns).mpr (STree.prefixB_refl a ha)

/-- **`<=` on treespecs is transitive** (same options): through any chain of dict kinds and key orders -/
theorem C07_is_prefix_trans (a b c : STree) (ha : a.wf = true) (hb : b.wf = true) (hc : c.wf = true)
    (nil : Bool) (ns : String)
    (h1 : isPrefix (a.spec nil ns) (b.spec nil ns) false = .ok true)
    (h2 : isPrefix (b.spec nil ns) (c.spec nil ns) false = .ok true) :
    isPrefix (a.spec nil ns) (c.spec nil ns) false = .ok true :=
  (isPrefix_spec_iff a c ha hc nil ns).mpr (STree.prefixB_trans a ha b hb c hc
    ((isPrefix_spec_iff a b ha hb nil ns).mp h1) ((isPrefix_spec_iff b c hb hc nil ns).mp h2))

/-- antisymmetry as far as it holds: `a <= b` and `b <= a` force equal node counts (the shapes may still
differ in dict kind / key order / deque maxlen) -/
theorem C07_is_prefix_antisymm (a b : STree) (ha : a.wf = true) (hb : b.wf = true) (nil : Bool) (ns : String)
    (h1 : isPrefix (a.spec nil ns) (b.spec nil ns) false = .ok true)
    (h2 : isPrefix (b.spec nil ns) (a.spec nil ns) false = .ok true) :
    (a.spec nil ns).numNodes = (b.spec nil ns).numNodes := by
  rw [STree.spec_numNodes, STree.spec_numNodes]
  exact STree.prefixB_antisymm_size a b ha hb ((isPrefix_spec_iff a b ha hb nil ns).mp h1)
    ((isPrefix_spec_iff b a hb ha nil ns).mp h2)

/-- non-vacuity, on the witness of the repaired defect: `OD(a=OD(x=*,y=*), b=*)` is a prefix of
`OD(b=*, a=OD(y=(*,), x=*))` (outer and inner dict both re-ordered, unequal sub-tree sizes) -/
def C07_witnessA : STree :=
  .node ⟨.ordereddict, .keys [.str "a", .str "b"], Option.none, Option.none, Option.none⟩
    [.node ⟨.ordereddict, .keys [.str "x", .str "y"], Option.none, Option.none, Option.none⟩
      [.leaf, .leaf], .leaf]
def C07_witnessB : STree :=
  .node ⟨.ordereddict, .keys [.str "b", .str "a"], Option.none, Option.none, Option.none⟩
    [.leaf, .node ⟨.ordereddict, .keys [.str "y", .str "x"], Option.none, Option.none, Option.none⟩
      [.node ⟨.tuple, .none, Option.none, Option.none, Option.none⟩ [.leaf], .leaf]]

example : C07_witnessA.wf = true ∧ C07_witnessB.wf = true ∧
    C07_witnessA.prefixB C07_witnessB = true ∧ C07_witnessA.sameB C07_witnessB = false := by
  decide

example : isPrefix (C07_witnessA.spec false "") (C07_witnessB.spec false "") true = .ok true := by
  rw [C07_is_prefix_strict_iff _ _ (by decide) (by decide)]
  exact congrArg _ (by decide)

/-! ### the third implementation: `prefix_errors` -/

/-- **`prefix_errors` reports nothing exactly when `flatten_up_to` succeeds** — for every prefix tree without
registered custom nodes (leaves, None, tuple, list, deque, dict / OrderedDict / defaultdict in either dict-order
mode, unregistered namedtuple and struct-sequence classes, any nesting), every full tree, every registry and
`none_is_leaf`, no predicate, with no assumption on the registry or on flatten functions.  `hns` asks that the
treespec records the configuration's namespace; for a prefix tree without custom nodes that is the global namespace
or one in insertion-ordered mode (`flatten_ns`).  Prefix trees with registered custom nodes need assumptions:
`C07_prefix_errors_agree` below. -/
theorem C07_prefix_errors_agree_partial (cfg : Cfg) (hp : cfg.pred = Option.none) (p : PyObj)
    (hwf : p.wf = true) (hnc : p.noCustom cfg = true) (ls : List PyObj) (sp : Spec)
    (h : flatten cfg p = .ok (ls, sp)) (hns : sp.ns = cfg.ns) (t : PyObj) :
    prefixErrors cfg p t = .ok [] ↔ ∃ subtrees, flattenUpTo cfg.reg sp t = .ok subtrees := by
  rw [flattenUpTo_of_flatten cfg hp p hwf ls sp h, hns]
  exact pe_agree cfg (!cfg.insertionOrdered) hp p hnc [] t

/-- the tree-level form (no treespec involved): against the structural matcher -/
theorem C07_prefix_errors_structural_partial (cfg : Cfg) (hp : cfg.pred = Option.none) (p : PyObj)
    (hnc : p.noCustom cfg = true) (t : PyObj) :
    prefixErrors cfg p t = .ok [] ↔
      ∃ subtrees, STree.upTo cfg.reg cfg.noneIsLeaf cfg.ns (shapeOf cfg (!cfg.insertionOrdered) p) t = .ok subtrees :=
  pe_agree cfg (!cfg.insertionOrdered) hp p hnc [] t

def okIs (r : Except Err PErrs) (es : PErrs) : Bool :=
  match r with
  | .ok a => a == es
  | .error _ => false

/-- non-vacuity: a defaultdict prefix against an OrderedDict in another key order matches; against a renamed key
it reports one `keys` error at the root; a tuple against a list one `types` error at the path -/
example :
    let cfg : Cfg := {}
    let p : PyObj := .list [.ddict (some 0) [(.str "b", .leaf 0 1), (.str "a", .tuple [.leaf 0 2])]]
    p.noCustom cfg = true ∧ p.wf = true ∧
    okIs (prefixErrors cfg p (.list [.odict [(.str "a", .tuple [.none]), (.str "b", .list [])]])) [] = true ∧
    okIs (prefixErrors cfg p (.list [.dict [(.str "a", .tuple [.none]), (.str "c", .list [])]])) [(.keys, [.int 0])] = true ∧
    okIs (prefixErrors cfg p (.list [.dict [(.str "a", .list [.none]), (.str "b", .list [])]]))
      [(.types, [.int 0, .str "a"])] = true := by decide

/-- **`prefix_errors` reports nothing exactly when `flatten_up_to` succeeds, registered custom nodes included**: for
every pair of trees whose registered classes have well-behaved flatten functions (`tame`: the 2- or 3-tuple with as
many entries as children), a registry that files every registration under its own class, no predicate — every node
kind, any nesting, both dict-order modes, every `none_is_leaf`, and every namespace that the treespec records (`hns`,
as for `C07_prefix_errors_agree_partial`).
(Where a flatten function of the *full* tree misbehaves the two differ by design of the code:
`tree_flatten_one_level` validates its return value, `flatten_up_to` never looks at its entries — the
correspondence stream runs both on such trees.) -/
theorem C07_prefix_errors_agree (cfg : Cfg) (hp : cfg.pred = Option.none) (hreg : cfg.reg.OK) (p t : PyObj)
    (hwf : p.wf = true) (htp : p.tame = true) (htt : t.tame = true) (ls : List PyObj) (sp : Spec)
    (h : flatten cfg p = .ok (ls, sp)) (hns : sp.ns = cfg.ns) :
    prefixErrors cfg p t = .ok [] ↔ ∃ subtrees, flattenUpTo cfg.reg sp t = .ok subtrees := by
  rw [flattenUpTo_of_flatten cfg hp p hwf ls sp h, hns]
  exact pe_full cfg (!cfg.insertionOrdered) hp hreg p htp [] t htt

/-- **the three implementations agree**: under the assumptions of `C07_prefix_errors_agree`, for well-formed trees,
`prefix_errors(p, t)` reports nothing ⇔ `tree_structure(p).flatten_up_to(t)` succeeds ⇔
`tree_structure(p).is_prefix(tree_structure(t))`. -/
theorem C07_three_way (cfg : Cfg) (hp : cfg.pred = Option.none) (hreg : cfg.reg.OK) (p t : PyObj)
    (hpw : p.wf = true) (htw : t.wf = true) (htp : p.tame = true) (htt : t.tame = true)
    (lp lt : List PyObj) (sp st : Spec)
    (h1 : flatten cfg p = .ok (lp, sp)) (h2 : flatten cfg t = .ok (lt, st)) (hns : sp.ns = cfg.ns) :
    (prefixErrors cfg p t = .ok [] ↔ ∃ subtrees, flattenUpTo cfg.reg sp t = .ok subtrees) ∧
    ((∃ subtrees, flattenUpTo cfg.reg sp t = .ok subtrees) ↔ isPrefix sp st false = .ok true) := by
  refine ⟨C07_prefix_errors_agree cfg hp hreg p t hpw htp htt lp sp h1 hns, ?_⟩
  rw [← C07_flatten_up_to_agrees_with_is_prefix cfg hp p t hpw htw lp lt sp st h1 h2 hns]
  exact okB_eq_true.symm

def C07_demoCfg : Cfg :=
  { reg := { global := [(0, 0, ⟨7, 0, 0, .flattened, .named⟩)], named := [] } }

/-- non-vacuity with a registered class: equal metadata and children match; different metadata is one `metadata`
error at the node; an instance of another class one `types` error -/
example :
    let cfg := C07_demoCfg
    let p : PyObj := .tuple [.user 0 (some (.int 1)) .ok [.leaf 0 1, .list [.leaf 0 2]]]
    cfg.reg.okB = true ∧ p.tame = true ∧ p.wf = true ∧
    okIs (prefixErrors cfg p (.tuple [.user 0 (some (.int 1)) .ok [.none, .list [.tuple []]]])) [] = true ∧
    okIs (prefixErrors cfg p (.tuple [.user 0 (some (.int 2)) .ok [.none, .list [.tuple []]]]))
      [(.metadata, [.int 0])] = true ∧
    okIs (prefixErrors cfg p (.tuple [.user 0 (some (.int 1)) .ok [.none, .tuple []]]))
      [(.types, [.int 0, .str "c1"])] = true := by decide

end Optree
