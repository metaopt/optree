/-
  C03  All traversal entry points agree with each other.
-/
import OptreeModel.Lemmas.Agree
import OptreeModel.Properties.C01
import OptreeModel.Lemmas.UpToAlign

namespace Optree

/-- **flatten and flatten-with-path agree** on leaves, on the whole node array, on the recorded
namespace *and on the exception type* — for every tree whose custom flatten functions are
well-behaved (`wf`), every registry, namespace, predicate, dict-order mode and depth limit
(so over-deep trees fail identically). -/
theorem C03_flatten_with_path_agrees (cfg : Cfg) (t : PyObj) (hwf : t.wf = true) :
    dropPaths (flattenWithPath cfg t) = flatten cfg t :=
  dropPaths_flattenWithPath cfg t hwf

/-- the number of paths returned by flatten-with-path equals the number of leaves and the
treespec's leaf count -/
theorem C03_counts (cfg : Cfg) (t : PyObj) (ps : List (List Key)) (ls : List PyObj) (sp : Spec)
    (hwf : t.wf = true) (h : flattenWithPath cfg t = .ok (ps, ls, sp)) :
    ps.length = ls.length ∧ sp.numLeaves = ls.length := by
  have hf := flatten_of_flattenWithPath hwf h
  obtain ⟨out, -, rfl, rfl, -⟩ := flattenWithPath_ok h
  exact ⟨by simp, (C01_flatten_sane cfg t _ sp hf).2⟩

theorem isLeaf_view (cfg : Cfg) (s : Bool) (x : PyObj) :
    isLeaf cfg x = match cfg.evalPred x with
      | .error e => .error e
      | .ok true => .ok true
      | .ok false => .ok (match x.view cfg s with | .leaf => true | _ => false) := by
  unfold isLeaf
  rw [getKind_view cfg s]
  have hn := PyObj.view_plain cfg s x
  cases hv : x.view cfg s <;> simp only [hv] at hn ⊢
  case node k data ok cs => rw [beq_eq_false_iff_ne.mpr hn.ne_leaf]; rfl
  all_goals rfl

/-- **tree_is_leaf ⇒**: if `isLeaf` says yes, flattening yields `[x]` with a leaf treespec -/
theorem C03_is_leaf_flatten (cfg : Cfg) (x : PyObj) (h : isLeaf cfg x = .ok true) :
    ∃ ns, flatten cfg x = .ok ([x], ⟨[Node.leaf], cfg.noneIsLeaf, ns⟩) := by
  rw [isLeaf_view cfg (!cfg.insertionOrdered)] at h
  have hgo : flattenGo cfg (!cfg.insertionOrdered) 0 x = .ok (leafOut x) := by
    rw [flattenGo_view, if_neg (Nat.not_lt_zero _)]
    cases hp : cfg.evalPred x with
    | error e => simp [hp] at h
    | ok p =>
      cases p
      · cases hv : x.view cfg (!cfg.insertionOrdered) <;> simp [hp, hv] at h ⊢
      · rfl
  exact ⟨_, flatten_of_flattenGo hgo⟩

/-- **tree_is_leaf ⇐**: if flattening yields a one-node leaf treespec, `isLeaf` says yes -/
theorem C03_flatten_is_leaf (cfg : Cfg) (x : PyObj) (ls : List PyObj) (ns : String)
    (h : flatten cfg x = .ok (ls, ⟨[Node.leaf], cfg.noneIsLeaf, ns⟩)) : isLeaf cfg x = .ok true := by
  obtain ⟨out, hout, -, hsp⟩ := flatten_ok h
  have hnodes : out.nodes = [Node.leaf] := (congrArg Spec.nodes hsp).symm
  rw [isLeaf_view cfg (!cfg.insertionOrdered)]
  obtain ⟨-, ⟨hp, -⟩ | ⟨hp, hout⟩⟩ := flattenGo_ok hout
  · rw [hp]
  rw [hp]
  have hn := PyObj.view_plain cfg (!cfg.insertionOrdered) x
  cases hv : x.view cfg (!cfg.insertionOrdered) <;> simp only [hv] at hout hn ⊢
  case node k data ok cs =>
    obtain ⟨b, -, rfl⟩ := closeSeq_ok hout
    exact absurd hnodes (close_nodes_ne_leaf b hn.ne_leaf _ _ _ _ _ _)
  case custom reg md q cs =>
    obtain ⟨b, _, -, rfl⟩ := customFlatten_ok hout
    exact absurd hnodes (close_nodes_ne_leaf b (by simp) _ _ _ _ _ _)

def C03_kReg : Registry :=
  { global := [(0, 0, { rid := 1, cls := 0, clsKind := 0, entryKind := .getattr, mode := .named })]
    named := [] }

/-- a custom node whose flatten function returns one entry too few and whose extra child is
over-deep (depth limit 1 for the example) -/
def C03_kTree : PyObj :=
  .user 0 Option.none .entriesMinus [.leaf 0 1, .list [.list [.leaf 0 2]]]

/-- **Error parity does not hold for malformed custom nodes** (known finding
`error-parity-malformed-custom-vs-depth`): flatten reports the over-deep child, flatten-with-path
the entries mismatch. -/
theorem C03_error_parity_full_false :
    (match flatten { reg := C03_kReg, maxDepth := 1 } C03_kTree,
           flattenWithPath { reg := C03_kReg, maxDepth := 1 } C03_kTree with
     | .error .recursion, .error .runtime => true
     | _, _ => false) = true := by decide

/-- … but it does hold (with identical results) whenever the flatten functions are well-behaved:
`C03_flatten_with_path_agrees` above. -/
theorem C03_error_parity_partial (cfg : Cfg) (t : PyObj) (hwf : t.wf = true) (e : Err) :
    flatten cfg t = .error e ↔ flattenWithPath cfg t = .error e := by
  rw [← C03_flatten_with_path_agrees cfg t hwf]
  cases flattenWithPath cfg t with
  | error e' => exact ⟨fun h => by cases h; rfl, fun h => by cases h; rfl⟩
  | ok r => exact ⟨nofun, nofun⟩

/-! ### non-vacuity -/

example : C01_demoTree.wf = true := by decide

/-- **The lazy iterator yields the leaves of flatten, in the same order.**  For every tree and
configuration on which `flatten` succeeds (any predicate, any registry, malformed flatten functions
excluded by the success itself), `list(tree_iter(t))` succeeds and is the leaves list of
`tree_flatten(t)` — the agenda machine of `PyTreeIter::NextImpl` against the recursion of
`FlattenIntoImpl`, by induction over the tree with the agenda generalised (Lemmas/Agree.lean). -/
theorem C03_iter_leaves (cfg : Cfg) (t : PyObj) (ls : List PyObj) (sp : Spec)
    (h : flatten cfg t = .ok (ls, sp)) : iterAll cfg t = .ok ls := by
  obtain ⟨out, hg, rfl, -⟩ := flatten_ok h
  obtain ⟨f, _, e⟩ := iobj cfg (!cfg.insertionOrdered) t 0 out hg (t.size + 1) [] [] (by omega)
  unfold iterAll
  rw [e]
  -- the agenda is empty: `iterRun` returns the accumulator reversed, whatever fuel `f` is left (its equations
  -- look at the fuel first, hence the `cases`)
  cases f <;> simp [iterRun]

/-! ### the three ways to obtain paths agree

`flatten_with_path` carries an entry stack down its recursion over the *tree*; `treespec.paths()` is an
index walk over the *node array*.  Both equal the structural recursion `STree.pathsT` over the shape. -/

/-- **the paths returned by `tree_flatten_with_path` are the paths `treespec.paths()` reports** for the
treespec returned by the same call (and by `tree_flatten`), one per leaf, in leaf order — for every
well-formed tree, registry, namespace and dict-order mode (no predicate) -/
theorem C03_paths_agree (cfg : Cfg) (hp : cfg.pred = Option.none) (t : PyObj) (hwf : t.wf = true)
    (ps : List (List Key)) (ls : List PyObj) (sp : Spec) (h : flattenWithPath cfg t = .ok (ps, ls, sp)) :
    paths sp = .ok ps ∧ ps = (shapeOf cfg (!cfg.insertionOrdered) t).pathsT [] ∧ ps.length = ls.length := by
  have hf := flatten_of_flattenWithPath hwf h
  have hl := (flatten_shapeOf cfg hp t hwf ls sp hf).2
  obtain ⟨out, ho, rfl, -, -⟩ := flattenWithPath_ok h
  have hps := psh cfg hp _ t hwf 0 [] out ho
  refine ⟨hps ▸ paths_of_flatten cfg hp t hwf ls sp hf, hps, ?_⟩
  rw [hps, STree.pathsT_length _ [] (eo cfg _ t), hl]

/-- **`all_leaves(xs)` holds exactly when every element is a leaf**: `True` iff `tree_is_leaf` is `True` for every
element (every list, predicate, registry) -/
theorem C03_all_leaves_true (cfg : Cfg) : ∀ xs : List PyObj,
    allLeaves cfg xs = .ok true ↔ ∀ x ∈ xs, isLeaf cfg x = .ok true
  | [] => by simp [allLeaves]
  | x :: xs => by
      have ih := C03_all_leaves_true cfg xs
      simp only [allLeaves, List.mem_cons, forall_eq_or_imp]
      cases h : isLeaf cfg x with
      | error e => simp
      | ok b => cases b <;> simp [ih]

/-- it is `False` exactly when the first element that is not accepted is a non-leaf (everything before it is a leaf and its
own test does not raise) -/
theorem C03_all_leaves_false (cfg : Cfg) : ∀ xs : List PyObj,
    allLeaves cfg xs = .ok false ↔
      ∃ pre x post, xs = pre ++ x :: post ∧ (∀ y ∈ pre, isLeaf cfg y = .ok true) ∧ isLeaf cfg x = .ok false
  | [] => by simp [allLeaves]
  | x :: xs => by
      -- a decomposition of `x :: xs` stops at `x` or passes over it
      have step : (∃ pre y post, x :: xs = pre ++ y :: post ∧ (∀ z ∈ pre, isLeaf cfg z = .ok true) ∧
            isLeaf cfg y = .ok false) ↔
          isLeaf cfg x = .ok false ∨ (isLeaf cfg x = .ok true ∧ ∃ pre y post, xs = pre ++ y :: post ∧
            (∀ z ∈ pre, isLeaf cfg z = .ok true) ∧ isLeaf cfg y = .ok false) := by
        constructor
        · rintro ⟨pre, y, post, he, hpre, hy⟩
          cases pre with
          | nil => obtain ⟨rfl, -⟩ := List.cons.inj he; exact .inl hy
          | cons p pre =>
            obtain ⟨rfl, rfl⟩ := List.cons.inj he
            exact .inr ⟨hpre _ List.mem_cons_self, pre, y, post, rfl,
              fun z hz => hpre z (List.mem_cons_of_mem _ hz), hy⟩
        · rintro (h | ⟨h, pre, y, post, rfl, hpre, hy⟩)
          · exact ⟨[], x, xs, rfl, nofun, h⟩
          · exact ⟨x :: pre, y, post, rfl, List.forall_mem_cons.mpr ⟨h, hpre⟩, hy⟩
      rw [step, ← C03_all_leaves_false cfg xs, allLeaves]
      cases isLeaf cfg x with
      | error e => simp
      | ok b => cases b <;> simp

end Optree
