/-
  C10  Transposition swaps outer and inner structure without losing or moving values.

  The list-level core of `tree_transpose` (ops.py): the leaves are cut into `m` rows of
  `n`, the rows are transposed (`zip(*rows)`), each column becomes an outer-shaped subtree and the
  inner treespec is unflattened over them.  What `unflatten` builds is C01's subject.
-/
import OptreeModel.Lemmas.TreeMap
import OptreeModel.Lemmas.Control
import OptreeModel.Lemmas.GraftBuild
import OptreeModel.Properties.C01
import OptreeModel.Properties.C02

namespace Optree

theorem chunks_length (n m : Nat) (xs : List PyObj) : (chunks n m xs).length = m := by
  induction m generalizing xs with
  | zero => rfl
  | succ k ih => simp [chunks, ih]

theorem chunks_ne_nil (n m : Nat) (xs : List PyObj) (hm : m ≠ 0) : chunks n m xs ≠ [] := by
  intro e
  have := chunks_length n m xs
  rw [e] at this
  exact hm this.symm

/-- cutting `m * n` leaves into `m` rows of `n` loses nothing and moves nothing -/
theorem C10_chunks_flatten (n m : Nat) (xs : List PyObj) (h : xs.length = m * n) :
    (chunks n m xs).flatten = xs := by
  induction m generalizing xs with
  | zero =>
    rw [Nat.zero_mul, List.length_eq_zero_iff] at h
    subst h
    rfl
  | succ k ih =>
    simp only [chunks, List.flatten_cons]
    rw [ih (xs.drop n) (by simp [h, Nat.succ_mul])]
    exact List.take_append_drop n xs

/-- every row has exactly `n` entries -/
theorem C10_chunks_row_length (n m : Nat) (xs : List PyObj) (h : xs.length = m * n) :
    ∀ r ∈ chunks n m xs, r.length = n := by
  induction m generalizing xs with
  | zero =>
    intro r hr
    cases hr
  | succ k ih =>
    intro r hr
    simp only [chunks, List.mem_cons] at hr
    rcases hr with hr | hr
    · subst hr
      simp [h, Nat.succ_mul]
    · exact ih (xs.drop n) (by simp [h, Nat.succ_mul]) r hr

/-- the i-th row holds the leaves `i*n … i*n+n-1` (outer leaf `i`, inner leaves in order) -/
theorem C10_chunks_get (n m : Nat) (xs : List PyObj) (i : Nat) (hi : i < m) :
    (chunks n m xs)[i]? = some ((xs.drop (i * n)).take n) := by
  induction m generalizing xs i with
  | zero => omega
  | succ k ih =>
    cases i with
    | zero => simp [chunks]
    | succ j =>
      simp only [chunks, List.getElem?_cons_succ]
      rw [ih (xs.drop n) j (by omega)]
      simp [List.drop_drop, Nat.succ_mul, Nat.add_comm]

/-- `zip(*rows)` of `m > 0` rows of equal length `n` has `n` columns of `m` entries, and column `j`
lists the `j`-th entry of every row: the value at (inner `j`, outer `i`) is the input's value at
(outer `i`, inner `j`) -/
theorem C10_transpose_rows (rows : List (List PyObj)) (n : Nat) (hne : rows ≠ [])
    (hrow : ∀ r ∈ rows, r.length = n) :
    transposeRows rows = (List.range n).map fun j => rows.map fun r => r[j]! := by
  cases rows with
  | nil => exact absurd rfl hne
  | cons r rs =>
    have h0 : r.length = n := hrow r (by simp)
    rw [transposeRows, zipArgs_same_length r rs fun l hl => (hrow l (by simp [hl])).trans h0.symm, h0]

theorem transpose_chunks_cols (n m : Nat) (xs : List PyObj) (h : xs.length = m * n) (hm : m ≠ 0) :
    (transposeRows (chunks n m xs)).length = n ∧
      ∀ c ∈ transposeRows (chunks n m xs), c.length = m ∧ ∀ x ∈ c, x ∈ xs := by
  have hrows := C10_chunks_row_length n m xs h
  rw [C10_transpose_rows (chunks n m xs) n (chunks_ne_nil n m xs hm) hrows]
  refine ⟨by rw [List.length_map, List.length_range], ?_⟩
  intro c hc
  obtain ⟨j, hj, rfl⟩ := List.mem_map.mp hc
  refine ⟨by rw [List.length_map, chunks_length], ?_⟩
  intro x hx
  obtain ⟨r, hr, rfl⟩ := List.mem_map.mp hx
  have hjr : j < r.length := by
    rw [hrows r hr]
    exact List.mem_range.mp hj
  rw [getElem!_pos r j hjr, ← C10_chunks_flatten n m xs h]
  exact List.mem_flatten.mpr ⟨r, hr, List.getElem_mem _⟩

/-- the guards of `tree_transpose`: empty structures and mismatching `none_is_leaf` are rejected -/
theorem C10_rejects (cfg : Cfg) (outer inner : Spec) (t : PyObj)
    (h : outer.noneIsLeaf ≠ inner.noneIsLeaf ∨
         (outer.sane = true ∧ inner.sane = true ∧ (outer.numLeaves = 0 ∨ inner.numLeaves = 0))) :
    treeTranspose cfg outer inner t = .error .value := by
  unfold treeTranspose
  by_cases hn : outer.noneIsLeaf = inner.noneIsLeaf
  · obtain ⟨h1, h2, h3⟩ := h.resolve_left (fun h => h hn)
    rw [if_neg (by simp [hn]), if_neg (by simp [h1, h2])]
    exact if_pos (by simpa using h3)
  · exact if_pos (by simpa using hn)

/-- `tree_transpose` succeeds only on a tree that flattens (with the outer treespec's `none_is_leaf`, in the outer
treespec's namespace or else the inner one's) to exactly `m * n` leaves; which error another count raises is not
said -/
theorem C10_wrong_count (cfg : Cfg) (outer inner : Spec) (t : PyObj) (r : PyObj)
    (h : treeTranspose cfg outer inner t = .ok r) :
    ∃ ls sp, flatten { cfg with noneIsLeaf := outer.noneIsLeaf,
                                 ns := if outer.ns != "" then outer.ns else inner.ns } t = .ok (ls, sp) ∧
      sp.numLeaves = outer.numLeaves * inner.numLeaves := by
  simp only [treeTranspose, ite_error_eq_ok] at h
  obtain ⟨-, -, -, -, h⟩ := h
  split at h
  · cases h
  rename_i ls sp hflat
  by_cases hc : sp.numLeaves = outer.numLeaves * inner.numLeaves
  · exact ⟨ls, sp, hflat, hc⟩
  · rw [if_pos (by simpa using hc)] at h
    split at h <;> cases h

example : chunks 2 3 [.leaf 0 1, .leaf 0 2, .leaf 0 3, .leaf 0 4, .leaf 0 5, .leaf 0 6] =
    [[.leaf 0 1, .leaf 0 2], [.leaf 0 3, .leaf 0 4], [.leaf 0 5, .leaf 0 6]] := by rfl

/-! ### transposition at the level of trees

`tree_transpose(outer, inner, t)` = `inner.unflatten([outer.unflatten(col) for col in zip(*rows)])`.
`Lemmas/GraftBuild.lean` says what `unflatten` builds when it is handed trees: the shape with the trees' shapes
grafted onto its leaves, and the trees' leaves in order. -/

/-- **`tree_transpose` at tree level** (global namespace, no predicate): for an outer tree with `m > 0` leaves, an
inner tree with `n > 0` leaves and any tree `t` with `m * n` leaves, the result has the shape *inner-of-outer*
(`compose` at tree level: every leaf of the inner shape replaced by the outer shape) and its leaves are the
columns of the `m × n` leaf matrix of `t`, one after the other — the value at (inner leaf `j`, outer leaf `i`) is
the input's value at (outer leaf `i`, inner leaf `j`) by `C10_transpose_rows` / `C10_chunks_get`. -/
theorem C10_transpose_tree (cfg : Cfg) (hreg : cfg.reg.OK) (hp : cfg.pred = Option.none) (hns : cfg.ns = "")
    (to ti t : PyObj) (hwo : to.wf = true) (hwi : ti.wf = true) (hwt : t.wf = true)
    (lo : List PyObj) (so : Spec) (ho : flatten cfg to = .ok (lo, so))
    (li : List PyObj) (si : Spec) (hi : flatten cfg ti = .ok (li, si))
    (lt : List PyObj) (st : Spec) (ht : flatten cfg t = .ok (lt, st))
    (hm : lo.length ≠ 0) (hn : li.length ≠ 0) (hcount : lt.length = lo.length * li.length) :
    ∃ r, treeTranspose cfg so si t = .ok r ∧
      shapeOf cfg (!cfg.insertionOrdered) r =
        (shapeOf cfg (!cfg.insertionOrdered) ti).subst (shapeOf cfg (!cfg.insertionOrdered) to) ∧
      leavesOf cfg (!cfg.insertionOrdered) r = (transposeRows (chunks li.length lo.length lt)).flatten := by
  obtain ⟨hcl, hmem⟩ := transpose_chunks_cols li.length lo.length lt hcount hm
  have hleaf : ∀ x ∈ lt, LeafLike cfg (!cfg.insertionOrdered) x := by
    intro x hx
    rw [C02_leaf_order cfg t lt st ht] at hx
    exact leafLike_of_mem cfg hp _ t hwt x hx
  obtain ⟨-, hlo⟩ := flatten_shapeOf cfg hp to hwo lo so ho
  obtain ⟨-, hli⟩ := flatten_shapeOf cfg hp ti hwi li si hi
  -- every column unflattens to a tree of the outer shape with the column as its leaves
  obtain ⟨os, hmap, hrel⟩ := Pairs.of_mapM (f := unflatten so)
    (R := fun c o => shapeOf cfg (!cfg.insertionOrdered) o = shapeOf cfg (!cfg.insertionOrdered) to ∧
      leavesOf cfg (!cfg.insertionOrdered) o = c)
    (transposeRows (chunks li.length lo.length lt)) (by
      intro c hc
      obtain ⟨cl, cm⟩ := hmem c hc
      exact unflatten_leafLike cfg hreg hp to hwo lo so ho c cl fun x hx => hleaf x (cm x hx))
  obtain ⟨r, hur, g1, g2, -⟩ := unflatten_graft cfg hreg hp ti hwi li si hi os (by rw [← hrel.length, hcl])
  refine ⟨r, ?_, ?_, ?_⟩
  · -- the guards pass, and the flattening configuration is `cfg` again
    obtain ⟨sno, nlo⟩ := C01_flatten_sane cfg to lo so ho
    obtain ⟨sni, nli⟩ := C01_flatten_sane cfg ti li si hi
    obtain ⟨-, nlt⟩ := C01_flatten_sane cfg t lt st ht
    obtain ⟨nso, nilo⟩ := flatten_ns ho
    obtain ⟨nsi, nili⟩ := flatten_ns hi
    have eso : so.ns = "" := by rcases nso with h | h <;> simp [h, hns]
    have esi : si.ns = "" := by rcases nsi with h | h <;> simp [h, hns]
    have hnil : (so.noneIsLeaf != si.noneIsLeaf) = false := by simp [nilo, nili]
    have hz : (so.numLeaves == 0 || si.numLeaves == 0) = false := by simp [nlo, nli, hm, hn]
    have hcfg : ({ cfg with noneIsLeaf := so.noneIsLeaf, ns := "" } : Cfg) = cfg := by
      cases cfg
      cases hns
      rw [nilo]
    unfold treeTranspose
    simp only [hnil, Bool.false_eq_true, if_false, sno, sni, Bool.not_true, Bool.or_self, hz, eso, esi,
      bne_self_eq_false, Bool.and_false, ite_self]
    rw [hcfg, ht]
    simp only [nlt, nlo, nli, hcount, bne_self_eq_false, Bool.false_eq_true, if_false, hmap, hur]
  · rw [g1, hrel.map_eq (h := fun _ => shapeOf cfg (!cfg.insertionOrdered) to) fun _ _ h => h.1,
      List.map_const', hcl, hli, STree.graftN_replicate]
  · rw [g2, List.flatMap_def, hrel.map_eq (h := id) fun _ _ h => h.2, List.map_id]

/-- non-vacuity: outer `(*, *)`, inner `[*, *, *]`, the tree `([1,2,3], [4,5,6])` transposes to `[(1,4), (2,5), (3,6)]` -/
example :
    let cfg : Cfg := {}
    let to := PyObj.tuple [.leaf 0 101, .leaf 0 102]
    let ti := PyObj.list [.leaf 0 201, .leaf 0 202, .leaf 0 203]
    let t := PyObj.tuple [.list [.leaf 0 1, .leaf 0 2, .leaf 0 3], .list [.leaf 0 4, .leaf 0 5, .leaf 0 6]]
    (match flatten cfg to, flatten cfg ti with
     | .ok (_, so), .ok (_, si) =>
        (match treeTranspose cfg so si t with
         | .ok r => r == PyObj.list [.tuple [.leaf 0 1, .leaf 0 4], .tuple [.leaf 0 2, .leaf 0 5], .tuple [.leaf 0 3, .leaf 0 6]]
         | .error _ => false)
     | _, _ => false) = true := by decide +kernel

/-- **transposing twice gives the matrix back**: for `m > 0` rows of equal length `n > 0`,
`zip(*zip(*rows)) = rows`, the step on leaf matrices behind `tree_transpose(inner, outer, tree_transpose(outer, inner,
t))`; chunking the flattened columns back into the matrix is not part of the statement -/
theorem C10_transpose_involution (rows : List (List PyObj)) (n : Nat) (hne : rows ≠ []) (hn : n ≠ 0)
    (hrow : ∀ r ∈ rows, r.length = n) :
    transposeRows (transposeRows rows) = rows := by
  have h1 := C10_transpose_rows rows n hne hrow
  have hne' : transposeRows rows ≠ [] := by
    rw [h1]
    intro h
    have := congrArg List.length h
    rw [List.length_map, List.length_range] at this
    exact hn this
  have hrow' : ∀ c ∈ transposeRows rows, c.length = rows.length := by
    intro c hc
    rw [h1] at hc
    obtain ⟨j, _, rfl⟩ := List.mem_map.mp hc
    exact List.length_map _
  rw [C10_transpose_rows (transposeRows rows) rows.length hne' hrow', h1]
  -- entry `j` of row `i` is read back from entry `i` of column `j`
  apply List.ext_getElem
  · rw [List.length_map, List.length_range]
  · intro i hi1 hi2
    have hlen : rows[i].length = n := hrow _ (List.getElem_mem _)
    apply List.ext_getElem
    · simp only [List.getElem_map, List.length_map, List.length_range, hlen]
    · intro j hj1 hj2
      have hj : j < n := hlen ▸ hj2
      simp only [List.getElem!_eq_getElem?_getD, List.getElem_map, List.getElem_range, List.length_map, hi2,
        getElem?_pos, hlen, hj, Option.getD_some]

/-- and on the flat leaf list: cut into `m` rows of `n`, transposed twice and concatenated, the leaves come back in
order -/
theorem C10_transpose_leaves_involution (n m : Nat) (xs : List PyObj) (h : xs.length = m * n) (hm : m ≠ 0) (hn : n ≠ 0) :
    (transposeRows (transposeRows (chunks n m xs))).flatten = xs := by
  rw [C10_transpose_involution (chunks n m xs) n (chunks_ne_nil n m xs hm) hn (C10_chunks_row_length n m xs h),
    C10_chunks_flatten n m xs h]

end Optree
