/-
  C05  tree_map family calls the function once per leaf, in order, on aligned arguments.

  `treeMapGen` is ops.py's `tree_map*` line by line (Model/Ops.lean); the statements below are about
  that model, for every tree, every list of rests, every user function and every configuration.
  Which rests `flattenUpTo` accepts is C07's subject; what `unflatten` builds is C01's.
-/
import OptreeModel.Lemmas.TreeMap
import OptreeModel.Lemmas.Control
import OptreeModel.Lemmas.UpToAlign
import OptreeModel.Properties.C01
import OptreeModel.Properties.C03
import OptreeModel.Properties.C04

namespace Optree

/-- **Once per leaf, in order.**  When the mapped function never raises, the call log is exactly the
list of argument tuples, one per leaf in flatten order, and there are as many results as calls. -/
theorem C05_calls_in_order (f : UserFn) (args : List (List Arg)) (rs : List PyObj)
    (h : (callAll f 0 args [] []).1 = .ok rs) :
    (callAll f 0 args [] []).2 = args ∧ rs.length = args.length := by
  have := callAll_log_ok f args 0 [] [] rs h
  simpa using this

/-- whether or not a call fails, the calls made are a prefix of the argument tuples (no call is skipped or
repeated) -/
theorem C05_calls_prefix (f : UserFn) (args : List (List Arg)) (i : Nat) (acc : List PyObj)
    (log : List (List Arg)) :
    ∃ k, (callAll f i args acc log).2 = log.reverse ++ args.take k := by
  induction args generalizing i acc log with
  | nil => exact ⟨0, by simp [callAll]⟩
  | cons a as ih =>
    unfold callAll
    split
    · exact ⟨1, by simp⟩
    · rename_i r _
      obtain ⟨k, hk⟩ := ih (i + 1) (r :: acc) (a :: log)
      exact ⟨k + 1, by rw [hk]; simp⟩

/-- **A rest that is not a suffix fails before `f` is called at all** (the error is whatever
`flatten_up_to` raised), for all six variants. -/
theorem C05_prefix_failure_before_calls (cfg : Cfg) (variant : MapVariant) (inplace : Bool)
    (f : UserFn) (t : PyObj) (rests : List PyObj) (ls : List PyObj) (sp : Spec) (e : Err)
    (hflat : flatten cfg t = .ok (ls, sp))
    (hwp : ∃ ps ls', flattenWithPath cfg t = .ok (ps, ls', sp))
    (hrest : rests.mapM (flattenUpTo cfg.reg sp) = .error e) :
    (treeMapGen cfg variant inplace f t rests).result = .error e ∧
    (treeMapGen cfg variant inplace f t rests).log = [] := by
  rw [treeMapGen_eq, treeMapArgs_rest_error cfg variant t rests ls sp e hflat (fun _ => hwp) hrest]
  exact ⟨rfl, rfl⟩

/-- the underscore variants return the original tree object -/
theorem C05_inplace_returns_tree (cfg : Cfg) (variant : MapVariant) (f : UserFn) (t : PyObj)
    (rests : List PyObj) (r : PyObj)
    (h : (treeMapGen cfg variant true f t rests).result = .ok r) : r = t := by
  rw [treeMapGen_eq] at h
  split at h
  · cases h
  · simp only at h
    split at h
    · cases h
    · cases h; rfl

/-! `flatten_up_to` on the first tree's treespec is the structural match `STree.upTo` against the first tree's shape
(`flattenUpTo_of_flatten`), and it succeeds exactly for suffixes of that shape (`flattenUpTo_iff_prefix`).  The theorems
below that look classes up ask, with `hns`, that the treespec records the namespace of the configuration; `flatten`
records `""` instead unless it met a registered class or the namespace is in insertion-ordered mode (`flatten_ns`). -/

/-- **an extra tree is accepted iff the first tree's shape is a prefix of its shape** (dict kinds
interchangeable and matched by key, deques regardless of maxlen, same classes and registrations) -/
theorem C05_rest_accepted_iff_suffix (cfg : Cfg) (hp : cfg.pred = Option.none) (t r : PyObj)
    (ht : t.wf = true) (hr : r.wf = true) (ls : List PyObj) (sp : Spec) (h : flatten cfg t = .ok (ls, sp))
    (hns : sp.ns = cfg.ns) :
    okB (flattenUpTo cfg.reg sp r) =
      (shapeOf cfg (!cfg.insertionOrdered) t).prefixB (shapeOf cfg (!cfg.insertionOrdered) r) :=
  flattenUpTo_iff_prefix cfg hp t r ht hr ls sp h hns

/-- on success every extra tree contributes exactly one sub-tree per leaf of the first tree -/
theorem C05_rest_one_per_leaf (cfg : Cfg) (hp : cfg.pred = Option.none) (t r : PyObj) (ht : t.wf = true)
    (ls : List PyObj) (sp : Spec) (h : flatten cfg t = .ok (ls, sp)) (subs : List PyObj)
    (hs : flattenUpTo cfg.reg sp r = .ok subs) : subs.length = ls.length := by
  rw [flattenUpTo_of_flatten cfg hp t ht ls sp h] at hs
  rw [STree.upTo_length _ _ _ _ r subs hs, (flatten_shapeOf cfg hp t ht ls sp h).2]

/-- **a single extra tree that is not a suffix makes `tree_map` fail before any call of `f`** -/
theorem C05_non_suffix_rejected (cfg : Cfg) (hp : cfg.pred = Option.none) (inplace : Bool) (f : UserFn)
    (t : PyObj) (rests : List PyObj) (ht : t.wf = true) (ls : List PyObj) (sp : Spec)
    (h : flatten cfg t = .ok (ls, sp)) (hns : sp.ns = cfg.ns) (r : PyObj) (hr : r ∈ rests) (hrw : r.wf = true)
    (hnot : (shapeOf cfg (!cfg.insertionOrdered) t).prefixB (shapeOf cfg (!cfg.insertionOrdered) r) = false) :
    (∃ e, (treeMapGen cfg .plain inplace f t rests).result = .error e) ∧
    (treeMapGen cfg .plain inplace f t rests).log = [] := by
  have hacc := C05_rest_accepted_iff_suffix cfg hp t r ht hrw ls sp h hns
  rw [hnot] at hacc
  obtain ⟨e, he⟩ := mapM_except_error_of_mem (flattenUpTo cfg.reg sp) rests r hr (okB_eq_false.mp hacc)
  rw [treeMapGen_eq, treeMapArgs_rest_error cfg .plain t rests ls sp e h nofun he]
  exact ⟨⟨e, rfl⟩, rfl⟩

/-- **aligned arguments**: the i-th sub-tree an accepted extra tree `r` contributes is the one reached from
`r` by following the i-th leaf path of the first tree (positions in sequences, keys in dicts whatever their
kind or order, the registration's entries in custom nodes) -/
theorem C05_rest_aligned (cfg : Cfg) (hp : cfg.pred = Option.none) (t r : PyObj) (ht : t.wf = true)
    (ls : List PyObj) (sp : Spec) (h : flatten cfg t = .ok (ls, sp)) (hns : sp.ns = cfg.ns)
    (subs : List PyObj) (hs : flattenUpTo cfg.reg sp r = .ok subs) :
    ∃ ps, paths sp = .ok ps ∧ ps.length = subs.length ∧
      ∀ (i : Nat) (p : List Key) (x : PyObj), ps[i]? = some p → subs[i]? = some x →
        PyObj.follow cfg r p = some x :=
  flattenUpTo_aligned cfg hp t r ht ls sp h hns subs hs

/-- the first tree matched against its own treespec contributes its own leaves: `tree_map(f, t, t)` calls
`f(leaf_i, leaf_i)` -/
theorem C05_self_rest (cfg : Cfg) (hp : cfg.pred = Option.none) (t : PyObj) (ht : t.wf = true)
    (ls : List PyObj) (sp : Spec) (h : flatten cfg t = .ok (ls, sp)) (hns : sp.ns = cfg.ns) :
    flattenUpTo cfg.reg sp t = .ok ls := flattenUpTo_self cfg hp t ht ls sp h hns

/-- The common part of the three result theorems, for given argument tuples.  The results rebuild the tree by
`C01_replace_leaves`: `hreg`, `hst` and `hleafy` are its hypotheses. -/
theorem treeMapGen_result (cfg : Cfg) (hreg : cfg.reg.OK) (hst : PredOnLeaves cfg) (variant : MapVariant)
    (f : UserFn) (t : PyObj) (rests : List PyObj) (ht : t.wf = true) (ls : List PyObj) (sp : Spec)
    (h : flatten cfg t = .ok (ls, sp)) (args : List (List Arg))
    (hargs : treeMapArgs cfg variant t rests = .ok (args, sp)) (hn : args.length = ls.length) (rs : List PyObj)
    (hcalls : (callAll f 0 args [] []).1 = .ok rs) (hleafy : ∀ x ∈ rs, LeafObj cfg x) :
    ∃ r, (treeMapGen cfg variant false f t rests).result = .ok r ∧
      (treeMapGen cfg variant false f t rests).log = args ∧ flatten cfg r = .ok (rs, sp) := by
  obtain ⟨hlog, hrl⟩ := C05_calls_in_order f _ rs hcalls
  obtain ⟨r, hu, hf⟩ := C01_replace_leaves cfg hreg hst t ht ls sp h rs (hrl.trans hn) hleafy
  rw [treeMapGen_eq, hargs]
  simp only [hcalls]
  exact ⟨r, hu, hlog, hf⟩

/-- **`tree_map(f, t, *rests)`**: when every rest is matched (`flatten_up_to` succeeds for each, one sub-tree per
leaf) and `f` returns leaf-typed objects, the result is a tree that flattens to *exactly the results of the
calls, in order, and the treespec of `t`* — the structure of `t` with the i-th leaf replaced by
`f(leaf_i(t), sub_i(rest_1), …)` — and the call log is one argument tuple per leaf, in flatten order:
the i-th tuple is `(leaf_i, subs_1[i], …, subs_k[i])`. -/
theorem C05_map_result (cfg : Cfg) (hreg : cfg.reg.OK) (hst : PredOnLeaves cfg) (f : UserFn) (t : PyObj)
    (rests : List PyObj) (ht : t.wf = true) (ls : List PyObj) (sp : Spec) (h : flatten cfg t = .ok (ls, sp))
    (restLeaves : List (List PyObj)) (hrest : rests.mapM (flattenUpTo cfg.reg sp) = .ok restLeaves)
    (hlen : ∀ l ∈ restLeaves, l.length = ls.length)
    (rs : List PyObj)
    (hcalls : (callAll f 0 ((List.range ls.length).map fun i => (ls :: restLeaves).map fun l => Arg.obj l[i]!) [] []).1
      = .ok rs)
    (hleafy : ∀ x ∈ rs, LeafObj cfg x) :
    ∃ r, (treeMapGen cfg .plain false f t rests).result = .ok r ∧
      (treeMapGen cfg .plain false f t rests).log =
        ((List.range ls.length).map fun i => (ls :: restLeaves).map fun l => Arg.obj l[i]!) ∧
      flatten cfg r = .ok (rs, sp) :=
  treeMapGen_result cfg hreg hst .plain f t rests ht ls sp h _
    (treeMapArgs_ok cfg .plain t rests ls sp h (fun _ => []) (fun _ => rfl) restLeaves hrest hlen)
    (by rw [List.length_map, List.length_range]) rs hcalls hleafy

/-- a side-effect-free function of one leaf as a mapped function -/
def pureFn (g : PyObj → PyObj) : UserFn :=
  fun _ a => match a with
    | [Arg.obj x] => .ok (g x)
    | _ => .error .internal

theorem callAll_pure (g : PyObj → PyObj) : ∀ (xs : List PyObj) (i : Nat) (acc : List PyObj) (log : List (List Arg)),
    (callAll (pureFn g) i (xs.map fun x => [Arg.obj x]) acc log).1 = .ok (acc.reverse ++ xs.map g) :=
  fun xs => callAll_map_ok (pureFn g) (fun x => [Arg.obj x]) (fun x => .ok (g x)) (fun _ _ => rfl) xs _
    List.mapM_pure

/-- **`tree_map(g, t)` for a pure `g` is `unflatten(treespec(t), [g(x) for x in leaves(t)])`** -/
theorem C05_map_pure (cfg : Cfg) (g : PyObj → PyObj) (t : PyObj) (ls : List PyObj) (sp : Spec)
    (h : flatten cfg t = .ok (ls, sp)) :
    (treeMapGen cfg .plain false (pureFn g) t []).result = unflatten sp (ls.map g) := by
  have hargs : ((List.range ls.length).map fun i => ([] : List Arg) ++ [ls].map fun l => Arg.obj l[i]!) =
      ls.map fun x => [Arg.obj x] := by
    apply List.ext_getElem
    · simp
    · intro i h1 h2
      have hi : i < ls.length := by simpa using h1
      simp [hi]
  rw [treeMapGen_eq, treeMapArgs_ok cfg .plain t [] ls sp h (fun _ => []) (fun _ => rfl) [] rfl nofun, hargs]
  simp only [callAll_pure g ls 0 [] []]
  rfl

/-- **identity map**: `tree_map(lambda x: x, t)` rebuilds `t` (the model identifies a container with its contents:
"a structurally identical copy built from the same leaf objects") -/
theorem C05_map_identity (cfg : Cfg) (hreg : cfg.reg.OK) (t : PyObj) (ht : t.wf = true) (ls : List PyObj)
    (sp : Spec) (h : flatten cfg t = .ok (ls, sp)) :
    (treeMapGen cfg .plain false (pureFn id) t []).result = .ok t := by
  rw [C05_map_pure cfg id t ls sp h]
  simp [C01_roundtrip cfg hreg t ht ls sp h]

/-- **`map(f ∘ g) = map(f) ∘ map(g)` for leaf-valued `g`**: mapping `g` first gives a tree of the same structure
whose leaves are the `g x`; mapping `f` over it is mapping `f ∘ g` over `t` -/
theorem C05_map_compose (cfg : Cfg) (hreg : cfg.reg.OK) (hst : PredOnLeaves cfg) (f g : PyObj → PyObj) (t : PyObj)
    (ht : t.wf = true) (ls : List PyObj) (sp : Spec) (h : flatten cfg t = .ok (ls, sp))
    (hg : ∀ x ∈ ls, LeafObj cfg (g x)) :
    ∃ tg, (treeMapGen cfg .plain false (pureFn g) t []).result = .ok tg ∧
      (treeMapGen cfg .plain false (pureFn f) tg []).result =
        (treeMapGen cfg .plain false (pureFn (f ∘ g)) t []).result := by
  obtain ⟨tg, hu, hf⟩ := C01_replace_leaves cfg hreg hst t ht ls sp h (ls.map g) (by simp)
    (by intro x hx; simp only [List.mem_map] at hx; obtain ⟨y, hy, rfl⟩ := hx; exact hg y hy)
  refine ⟨tg, by rw [C05_map_pure cfg g t ls sp h]; exact hu, ?_⟩
  rw [C05_map_pure cfg f tg (ls.map g) sp hf, C05_map_pure cfg (f ∘ g) t ls sp h]
  simp [List.map_map]

/-- **`tree_map_with_path(f, t, *rests)`**: the same as `tree_map`, and every call additionally receives, first, the
path of its leaf: the i-th argument tuple is `(path_i, leaf_i, subs_1[i], …)` where `path_i` is the i-th path of
`flatten_with_path` (= the i-th path of the treespec, `C03_paths_agree`) -/
theorem C05_map_with_path_result (cfg : Cfg) (hreg : cfg.reg.OK) (hst : PredOnLeaves cfg) (f : UserFn) (t : PyObj)
    (rests : List PyObj) (ht : t.wf = true) (ps : List (List Key)) (ls : List PyObj) (sp : Spec)
    (h : flattenWithPath cfg t = .ok (ps, ls, sp)) (hpl : ps.length = ls.length)
    (restLeaves : List (List PyObj)) (hrest : rests.mapM (flattenUpTo cfg.reg sp) = .ok restLeaves)
    (hlen : ∀ l ∈ restLeaves, l.length = ls.length)
    (rs : List PyObj)
    (hcalls : (callAll f 0 ((List.range ls.length).map fun i =>
        Arg.path ps[i]! :: (ls :: restLeaves).map fun l => Arg.obj l[i]!) [] []).1 = .ok rs)
    (hleafy : ∀ x ∈ rs, LeafObj cfg x) :
    ∃ r, (treeMapGen cfg .withPath false f t rests).result = .ok r ∧
      (treeMapGen cfg .withPath false f t rests).log =
        ((List.range ls.length).map fun i => Arg.path ps[i]! :: (ls :: restLeaves).map fun l => Arg.obj l[i]!) ∧
      flatten cfg r = .ok (rs, sp) :=
  have hflat := flatten_of_flattenWithPath ht h
  treeMapGen_result cfg hreg hst .withPath f t rests ht ls sp hflat _
    (treeMapArgs_ok cfg .withPath t rests ls sp hflat (fun i => [Arg.path ps[i]!]) ⟨ps, h, hpl, fun _ => rfl⟩
      restLeaves hrest hlen)
    (by rw [List.length_map, List.length_range]) rs hcalls hleafy

/-- **the underscore variants make the same calls**: the call log of `tree_map_` / `tree_map_with_path_` /
`tree_map_with_accessor_` is the call log of the variant without underscore, whatever happens -/
theorem C05_inplace_same_calls (cfg : Cfg) (variant : MapVariant) (f : UserFn) (t : PyObj) (rests : List PyObj) :
    (treeMapGen cfg variant true f t rests).log = (treeMapGen cfg variant false f t rests).log := by
  rw [treeMapGen_eq, treeMapGen_eq]
  cases treeMapArgs cfg variant t rests with
  | error e => rfl
  | ok p => simp only; cases (callAll f 0 p.1 [] []).1 <;> rfl

/-- **`tree_map_with_accessor(f, t, *rests)`**: the same as `tree_map`, and every call additionally receives, first,
the accessor of its leaf: the i-th argument tuple is `(accessor_i, leaf_i, subs_1[i], …)` where `accessor_i` is the
i-th accessor of the treespec -/
theorem C05_map_with_accessor_result (cfg : Cfg) (hreg : cfg.reg.OK) (hst : PredOnLeaves cfg) (f : UserFn) (t : PyObj)
    (rests : List PyObj) (ht : t.wf = true) (ls : List PyObj) (sp : Spec)
    (h : flatten cfg t = .ok (ls, sp)) (as : List (List AccEntry)) (hacc : accessors sp = .ok as)
    (hal : as.length = ls.length)
    (restLeaves : List (List PyObj)) (hrest : rests.mapM (flattenUpTo cfg.reg sp) = .ok restLeaves)
    (hlen : ∀ l ∈ restLeaves, l.length = ls.length)
    (rs : List PyObj)
    (hcalls : (callAll f 0 ((List.range ls.length).map fun i =>
        Arg.acc as[i]! :: (ls :: restLeaves).map fun l => Arg.obj l[i]!) [] []).1 = .ok rs)
    (hleafy : ∀ x ∈ rs, LeafObj cfg x) :
    ∃ r, (treeMapGen cfg .withAccessor false f t rests).result = .ok r ∧
      (treeMapGen cfg .withAccessor false f t rests).log =
        ((List.range ls.length).map fun i => Arg.acc as[i]! :: (ls :: restLeaves).map fun l => Arg.obj l[i]!) ∧
      flatten cfg r = .ok (rs, sp) :=
  treeMapGen_result cfg hreg hst .withAccessor f t rests ht ls sp h _
    (treeMapArgs_ok cfg .withAccessor t rests ls sp h (fun i => [Arg.acc as[i]!]) ⟨as, hacc, hal, fun _ => rfl⟩
      restLeaves hrest hlen)
    (by rw [List.length_map, List.length_range]) rs hcalls hleafy

/-- without a predicate the accessors exist, one per leaf, and the accessor handed to the i-th call leads from the
tree to the i-th leaf (`C04_accessors_of_flatten`) -/
theorem C05_map_with_accessor_reaches (cfg : Cfg) (hp : cfg.pred = Option.none) (t : PyObj) (ht : t.wf = true)
    (ls : List PyObj) (sp : Spec) (h : flatten cfg t = .ok (ls, sp)) (hns : sp.ns = cfg.ns) :
    ∃ as, accessors sp = .ok as ∧ as.length = ls.length ∧
      ∀ (i : Nat) (a : List AccEntry) (x : PyObj), as[i]? = some a → ls[i]? = some x →
        PyObj.follow cfg t (pathOf a) = some x := by
  obtain ⟨as, h1, _, h3, _, h5⟩ := C04_accessors_of_flatten cfg hp t ht ls sp h hns
  exact ⟨as, h1, h3, h5⟩

end Optree
