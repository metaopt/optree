/-
  C13  Insertion-ordered dict mode is scoped to its namespace and with-block.
-/
import OptreeModel.Model.OrderSM
import OptreeModel.Model.Flatten

namespace Optree

/-- restoring the saved own flag of a namespace undoes `set` -/
theorem C13_set_restore (s : OState) (mode : Bool) (ns : String) :
    (s.set mode ns).set (s ns) ns = s := by
  funext n
  simp only [OState.set]
  split <;> simp_all

/-- setting one namespace never changes the own flag of another -/
theorem C13_set_other (s : OState) (mode : Bool) (ns n : String) (h : n ≠ ns) :
    (s.set mode ns) n = s n := by
  simp [OState.set, h]

theorem ostep_unwind (st : OState × OStack) (e : OEvent) :
    unwind (ostep st e).2 (ostep st e).1 = unwind st.2 st.1 := by
  cases e with
  | enter mode ns =>
    -- the block just opened is unwound first, which undoes its `set`
    exact congrArg (unwind st.2) (C13_set_restore st.1 mode ns)
  | exit =>
    obtain ⟨s, stack⟩ := st
    cases stack <;> rfl
  | raise => rfl

/-- **Invariant**: whatever the program does, unwinding the open blocks gives back the state the
outermost block was entered in. -/
theorem C13_unwind_invariant (events : List OEvent) (s : OState) (stack : OStack) (s0 : OState)
    (h : unwind stack s = s0) :
    unwind (orun events (s, stack)).2 (orun events (s, stack)).1 = s0 :=
  List.foldlRecOn events ostep (motive := fun st => unwind st.2 st.1 = s0) h
    fun st hst e _ => (ostep_unwind st e).trans hst

/-- **Restore.**  After any sequence of enter / exit / raise events that leaves no block open —
any nesting depth, any interleaving of namespaces, `False` inside `True`, normal or exceptional
exits — the mode of every namespace is exactly what it was before. -/
theorem C13_restore (events : List OEvent) (s : OState)
    (hclosed : (orun events (s, [])).2 = []) : (orun events (s, [])).1 = s := by
  have := C13_unwind_invariant events s [] s rfl
  rw [hclosed] at this
  simpa [unwind] using this

/-- an exception closes every open block, so the state is restored right away -/
theorem C13_raise_restores (events : List OEvent) (s : OState) :
    (orun (events ++ [.raise]) (s, [])).1 = s ∧ (orun (events ++ [.raise]) (s, [])).2 = [] := by
  have h := C13_unwind_invariant events s [] s rfl
  simp only [orun, List.foldl_append, List.foldl_cons, List.foldl_nil] at h ⊢
  exact ⟨by simpa [ostep] using h, by simp [ostep]⟩

/-- **Scope.**  A namespace is insertion-ordered iff its own flag or the global flag is set; a block
over a namespace `N` other than the global one therefore affects `N` only. -/
theorem C13_scope (s : OState) (mode : Bool) (N M : String) (hM : M ≠ N) (hN : N ≠ "") :
    (s.set mode N).ordered M = s.ordered M := by
  unfold OState.ordered
  rw [C13_set_other s mode N M hM, C13_set_other s mode N "" (Ne.symm hN)]

theorem C13_scope_self (s : OState) (N : String) : (s.set true N).ordered N = true := by
  simp [OState.ordered, OState.set]

theorem C13_scope_global (s : OState) (M : String) : (s.set true "").ordered M = true := by
  simp [OState.ordered, OState.set]

/-- the engine's flatten reads the mode through `Cfg.insertionOrdered`, which is `OState.ordered`
of the characteristic function of `cfg.ordered` -/
theorem C13_cfg_reads_mode (cfg : Cfg) (inherit : Bool) :
    cfg.insertionOrdered inherit = OState.ordered (fun n => cfg.ordered.contains n) cfg.ns inherit := by
  simp [Cfg.insertionOrdered, OState.ordered]

/-- OrderedDict is unaffected by the mode: its children are visited in insertion order either way -/
theorem C13_ordereddict_unaffected {α : Type} (sorted : Bool) (items : List (Key × α)) :
    dictOrder true sorted items = items := by
  simp [dictOrder]

/-! ### non-vacuity -/

example :
    let prog := [OEvent.enter true "a", .enter false "a", .enter true "", .exit, .enter true "b", .raise,
                 .enter true "b", .exit]
    (orun prog (OState.init, [])).2 = [] := by decide

end Optree
