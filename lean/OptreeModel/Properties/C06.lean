/-
  C06  Treespec equality means same structure, and equal treespecs hash equally.

  `Generated.hashSpecFields / hashNodeFields / eqFields` are regenerated from hashing.cpp and
  richcomparison.cpp on every run (translator T-hash); the three `*_ok` theorems below are the
  generated obligations: they are re-checked against what the code says now.
-/
import OptreeModel.Lemmas.EncEq
import OptreeModel.Generated.Hash
import OptreeModel.Lemmas.EncFlatten

namespace Optree

/-- treespec-level fields that `==` forces to be equal (namespace is *not* among them: an empty
namespace is a wildcard for `==`) -/
def C06_eqDeterminedSpecFields : List String := ["num_leaves", "num_nodes", "none_is_leaf"]

/-- node-level fields that `==` forces to be equal -/
def C06_eqDeterminedNodeFields : List String := ["kind", "arity", "num_leaves", "num_nodes", "data"]

/-- **Generated obligation.** Every treespec-level value that is hashed is determined by `==`. -/
theorem C06_hashSpecFields_ok :
    ∀ f ∈ Generated.hashSpecFields, f ∈ C06_eqDeterminedSpecFields := by
  simp [Generated.hashSpecFields, C06_eqDeterminedSpecFields]

/-- **Generated obligation.** Every node-level value that is hashed is determined by `==`. -/
theorem C06_hashNodeFields_ok :
    ∀ f ∈ Generated.hashNodeFields, f ∈ C06_eqDeterminedNodeFields := by
  simp [Generated.hashNodeFields, C06_eqDeterminedNodeFields]

/-- **Generated obligation.** `EqualTo` in the source performs the comparisons the model's `equalTo`
performs. -/
theorem C06_eqFields_ok :
    ∀ f ∈ ["size", "none_is_leaf", "namespace_compat", "num_leaves", "kind", "arity", "has_data",
           "custom", "data", "node_num_leaves", "node_num_nodes"], f ∈ Generated.eqFields := by
  simp only [List.forall_mem_cons]
  simp only [Generated.eqFields, List.mem_cons, true_or, or_true, and_self, List.not_mem_nil, false_imp_iff,
    implies_true]

/-- Equal treespecs have equal hash input, for every selection of hashed fields that `==`
determines (hence equal hashes for any combining function). -/
theorem C06_eq_hash (specFields nodeFields : List String)
    (hs : ∀ f ∈ specFields, f ∈ C06_eqDeterminedSpecFields) (a b : Spec)
    (h : equalTo a b = .ok true) :
    hashInput specFields nodeFields a = hashInput specFields nodeFields b := by
  simp only [equalTo, ite_error_eq_ok, ite_ok_false_eq_ok_true, Bool.or_eq_true, bne_iff_ne, ne_eq, not_or,
    Decidable.not_not] at h
  obtain ⟨-, ⟨-, hnil⟩, -, ⟨hnn, hnl⟩, hnodes⟩ := h
  show _ ++ _ = _ ++ _
  refine congr (congrArg _ ?_) ?_
  · -- the treespec-level values agree except for the namespace, which is not among the hashed fields
    have hns : "namespace" ∉ C06_eqDeterminedSpecFields := by simp [C06_eqDeterminedSpecFields]
    rw [List.flatMap_def, List.flatMap_def]
    refine congrArg List.flatten (List.map_congr_left fun f hf => ?_)
    have : ¬ (f == "namespace") = true := fun e => hns (beq_iff_eq.mp e ▸ hs f hf)
    rw [hnl, hnn, hnil, if_neg this, if_neg this]
  · refine flatMap_congr_of_map (fun x y hxy => ?_) (nodesEq_true _ _ hnodes)
    obtain ⟨hk, ha, hl, hn, hd⟩ := Node.eqKey_fields hxy
    simp only [hk, ha, hl, hn, hd]

/-- The statement for the field lists found in the source today. -/
theorem C06_eq_hash_generated (a b : Spec) (h : equalTo a b = .ok true) :
    hashInput Generated.hashSpecFields Generated.hashNodeFields a =
    hashInput Generated.hashSpecFields Generated.hashNodeFields b :=
  C06_eq_hash _ _ C06_hashSpecFields_ok a b h

/-- every test of the loop is symmetric, the payload test given that the one before it has passed -/
theorem C06_nodesEq_symm (xs ys : List Node) : nodesEq xs ys = nodesEq ys xs := by
  induction xs generalizing ys with
  | nil => cases ys <;> rfl
  | cons x xs ih =>
    cases ys with
    | nil => rfl
    | cons y ys =>
      rw [nodesEq, nodesEq, ih ys, bne_comm (a := y.kind), bne_comm (a := y.arity), bne_comm (a := y.data.isSome),
        bne_comm (a := y.custom), bne_comm (a := y.data), bne_comm (a := y.numLeaves), bne_comm (a := y.numNodes)]
      refine ite_congr rfl (fun _ => rfl) fun h => ?_
      simp only [Bool.or_eq_true, bne_iff_ne, ne_eq, not_or, Decidable.not_not] at h
      rw [h.1.2]

theorem nsCompatible_comm (a b : String) : nsCompatible a b = nsCompatible b a := by
  rw [nsCompatible, nsCompatible, Bool.or_comm (a == ""), Bool.beq_comm (a := a) (b := b)]

/-- `==` is symmetric (as a result, including the internal-error outcome). -/
theorem C06_symm (a b : Spec) : equalTo a b = equalTo b a := by
  rw [equalTo, equalTo, C06_nodesEq_symm, nsCompatible_comm, Bool.or_comm (!b.sane), bne_comm (a := b.nodes.length),
    bne_comm (a := b.noneIsLeaf), bne_comm (a := b.numNodes), bne_comm (a := b.numLeaves)]

theorem C06_nodesEq_refl (xs : List Node) : nodesEq xs xs = .ok true :=
  (nodesEq_true_iff xs xs).mpr ((allEqv_iff xs xs).mpr rfl)

/-- `==` is reflexive on every treespec whose node array passes the sanity check. -/
theorem C06_refl (a : Spec) (h : a.sane = true) : equalTo a a = .ok true := by
  simp [equalTo, h, nsCompatible, C06_nodesEq_refl]

def C06_demoA : Spec :=
  { nodes := [Node.leaf, { Node.leaf with kind := .tuple, arity := 1, numNodes := 2 }],
    noneIsLeaf := false, ns := "" }
def C06_demoB : Spec := { C06_demoA with ns := "ns" }

/-- two treespecs that differ only in the namespace are `==` … -/
example : (match equalTo C06_demoA C06_demoB with | .ok true => true | _ => false) = true := by decide
/-- … so a hash that mixed in the namespace would separate equal treespecs -/
example : hashInput ["namespace"] [] C06_demoA ≠ hashInput ["namespace"] [] C06_demoB := by decide

/-! ### refinement: `==` decides equality of shapes

`STree.eqB` (Lemmas/EncEq.lean) is structural equality of shapes as the property words it: same node
kinds, arities, classes / metadata / keys *in the same order* / maxlen / default factory and identical
registrations at every node; custom path entries and the remembered insertion order of dict keys do
not take part. -/

/-- **`a == b` is `True` exactly when the shapes are equal**, `none_is_leaf` agrees and the namespaces are
compatible — for all well-formed shapes of any size -/
theorem C06_eq_iff (a b : STree) (ha : a.wf = true) (hb : b.wf = true) (nil nil' : Bool) (ns ns' : String) :
    equalTo (a.spec nil ns) (b.spec nil' ns') = .ok true ↔
      (nil = nil' ∧ nsCompatible ns ns' = true ∧ a.eqB b = true) :=
  equalTo_enc_true a b ha hb nil nil' ns ns'

/-- hence two treespecs made by flattening compare equal iff their shapes are equal (same options) -/
theorem C06_eq_of_flatten (cfg : Cfg) (t u : PyObj) (ht : t.wf = true) (hu : u.wf = true)
    (lt lu : List PyObj) (st su : Spec) (h1 : flatten cfg t = .ok (lt, st)) (h2 : flatten cfg u = .ok (lu, su)) :
    ∃ a b : STree, a.wf = true ∧ b.wf = true ∧ st = a.spec cfg.noneIsLeaf st.ns ∧ su = b.spec cfg.noneIsLeaf su.ns ∧
      (equalTo st su = .ok true ↔ (nsCompatible st.ns su.ns = true ∧ a.eqB b = true)) := by
  obtain ⟨a, ha, ea, _⟩ := flatten_isEnc cfg t ht lt st h1
  obtain ⟨b, hb, eb, _⟩ := flatten_isEnc cfg u hu lu su h2
  refine ⟨a, b, ha, hb, ea, eb, ?_⟩
  rw [ea, eb, C06_eq_iff a b ha hb]
  simp [STree.spec]

/-! ### equality of shapes is an equivalence relation

`STree.eqPart` (Lemmas/EncEq.lean) erases what `==` does not read: custom path entries and the remembered insertion
order of dict keys.  `STree.eqB` is equality of what is left (`STree.eqB_iff`), so its laws are those of `=`. -/

theorem C06_shape_eq_refl : ∀ a : STree, a.eqB a = true :=
  fun a => (STree.eqB_iff a a).mpr rfl
theorem C06_shape_eq_reflL : ∀ cs : List STree, STree.eqL cs cs = true :=
  fun cs => (STree.eqL_iff cs cs).mpr rfl

theorem C06_shape_eq_symm : ∀ a b : STree, a.eqB b = b.eqB a :=
  fun a b => Bool.eq_iff_iff.mpr (by rw [STree.eqB_iff, STree.eqB_iff]; exact eq_comm)
theorem C06_shape_eq_symmL : ∀ cs ds : List STree, STree.eqL cs ds = STree.eqL ds cs :=
  fun cs ds => Bool.eq_iff_iff.mpr (by rw [STree.eqL_iff, STree.eqL_iff]; exact eq_comm)

theorem C06_shape_eq_trans : ∀ a b c : STree, a.eqB b = true → b.eqB c = true → a.eqB c = true :=
  fun a b c h1 h2 => (STree.eqB_iff a c).mpr (((STree.eqB_iff a b).mp h1).trans ((STree.eqB_iff b c).mp h2))
theorem C06_shape_eq_transL : ∀ cs ds es : List STree, STree.eqL cs ds = true → STree.eqL ds es = true →
    STree.eqL cs es = true :=
  fun cs ds es h1 h2 => (STree.eqL_iff cs es).mpr (((STree.eqL_iff cs ds).mp h1).trans ((STree.eqL_iff ds es).mp h2))

/-- `==` between treespecs with the same options is transitive (transitivity is where the empty-namespace wildcard
could bite: it is stated for equal namespaces; reflexivity and symmetry are `C06_refl`, `C06_symm`) -/
theorem C06_trans_same_ns (a b c : STree) (ha : a.wf = true) (hb : b.wf = true) (hc : c.wf = true)
    (nil : Bool) (ns : String)
    (h1 : equalTo (a.spec nil ns) (b.spec nil ns) = .ok true)
    (h2 : equalTo (b.spec nil ns) (c.spec nil ns) = .ok true) :
    equalTo (a.spec nil ns) (c.spec nil ns) = .ok true := by
  rw [C06_eq_iff a b ha hb] at h1
  rw [C06_eq_iff b c hb hc] at h2
  rw [C06_eq_iff a c ha hc]
  exact ⟨rfl, h1.2.1, C06_shape_eq_trans a b c h1.2.2 h2.2.2⟩

/-- equal shapes have equal counts, so the count guards of `EqualTo` never change the answer -/
theorem C06_eq_counts (a b : STree) (h : a.eqB b = true) : a.size = b.size ∧ a.leaves = b.leaves :=
  STree.eqB_counts a b h

end Optree
