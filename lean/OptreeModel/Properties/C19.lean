/-
  C19  optree dataclasses and optree partial are faithful pytree nodes.
-/
import OptreeModel.Model.Dataclass
import OptreeModel.Lemmas.Control

namespace Optree

/-- **Partition.**  On success the children are exactly the pytree-node fields and the metadata
exactly the other init fields, both in declaration order; no field is in both lists; non-init,
non-pytree fields are in neither. -/
theorem C19_partition (c : DcCall) (ch md : List String) (h : dcPartition c = .ok (ch, md)) :
    ch = (c.fields.filter (·.pytreeNode)).map (·.name) ∧
    md = (c.fields.filter (fun f => !f.pytreeNode && f.init)).map (·.name) ∧
    (∀ f ∈ c.fields, f.pytreeNode = true → f.init = true) := by
  simp only [dcPartition, ite_error_eq_ok, Except.ok.injEq, Prod.mk.injEq] at h
  obtain ⟨hany, -, -, -, rfl, rfl⟩ := h
  refine ⟨rfl, rfl, fun f hf hp => ?_⟩
  simp only [List.any_eq_true, Bool.and_eq_true, Bool.not_eq_true', not_exists, not_and] at hany
  simpa using hany f hf hp

/-- **Rejections**: a non-init field declared as pytree node, decorating twice, an empty namespace,
a non-class -/
theorem C19_rejects (c : DcCall) :
    ((∃ f ∈ c.fields, f.pytreeNode = true ∧ f.init = false) → dcPartition c = .error .type_) ∧
    (c.alreadyDecorated = true → ∃ e, dcPartition c = .error e ∧ e = .type_) ∧
    (c.nsEmpty = true → ∃ e, dcPartition c = .error e) ∧
    ((∀ f ∈ c.fields, f.pytreeNode = true → f.init = true) → c.isClass = true →
      c.alreadyDecorated = false → c.nsEmpty = true → dcPartition c = .error .value) ∧
    (c.isClass = false → dcPartition c = .error .type_) := by
  have hany : c.fields.any (fun f => f.pytreeNode && !f.init) = true ↔
      ∃ f ∈ c.fields, f.pytreeNode = true ∧ f.init = false := by
    simp only [List.any_eq_true, Bool.and_eq_true, Bool.not_eq_true']
  unfold dcPartition
  refine ⟨fun h => if_pos (hany.2 h), fun h2 => ?_, fun h3 => ?_, fun hall h1 h2 h3 => ?_, fun h1 => ?_⟩
  · -- the two guards in front of this one raise the same error
    rw [if_pos h2, ite_self, ite_self]
    exact ⟨_, rfl, rfl⟩
  · exact ite_error_raises (ite_error_raises (ite_error_raises ⟨_, if_pos h3⟩))
  · have h0 : ¬ c.fields.any (fun f => f.pytreeNode && !f.init) = true := fun hc => by
      obtain ⟨f, hf, hp, hi⟩ := hany.1 hc
      rw [hall f hf hp] at hi
      cases hi
    rw [if_neg h0, h1, h2, if_pos h3]
    rfl
  · simp only [h1, Bool.not_false, if_true, ite_self]

/-- children are addressed by field name: the entries are the children's field names, one per child -/
theorem C19_entries {α : Type} [Inhabited α] (ch md : List String) (o : DcObj α) :
    (dcFlatten ch md o).2.2 = ch ∧ (dcFlatten ch md o).1.length = ch.length ∧
    (dcFlatten ch md o).2.1.map (·.1) = md := by
  simp [dcFlatten, List.map_map, Function.comp_def]

/-- **Round trip.**  Unflattening hands the constructor every init field exactly once with its
original value: children by their field names, metadata as stored. -/
theorem C19_roundtrip_kwargs {α : Type} [Inhabited α] (ch md : List String) (o : DcObj α) :
    dcUnflattenKwargs ch (dcFlatten ch md o).2.1 (dcFlatten ch md o).1 =
      (ch ++ md).map fun n => (n, dcGet o n) := by
  simp only [dcUnflattenKwargs, dcFlatten, List.map_append]
  congr 1
  induction ch with
  | nil => rfl
  | cons n ns ih => simp [ih]

/-- **partial** flattens to (args, keywords) with the wrapped callable as metadata and entries
('args', 'keywords'); unflatten ∘ flatten is the identity (the model keeps the callable as an opaque value, so a
nested partial cannot be merged) -/
theorem C19_partial_roundtrip {α : Type} (p : Partial α) :
    partialUnflatten (partialFlatten p).2.1 (partialFlatten p).1 = p ∧
    (partialFlatten p).2.2 = ["args", "keywords"] ∧ (partialFlatten p).2.1 = p.func := by
  cases p; simp [partialUnflatten, partialFlatten]

/-- the partial rebuilt from the children mapped by `f` has the same `func`, and its `args` are the old ones
mapped by `f` -/
theorem C19_call_after_map {α : Type} (p : Partial α) (f : α → α) :
    (partialUnflatten (partialFlatten p).2.1
      ((partialFlatten p).1.1.map f, (partialFlatten p).1.2.map fun kv => (kv.1, f kv.2))).func = p.func ∧
    (partialUnflatten (partialFlatten p).2.1
      ((partialFlatten p).1.1.map f, (partialFlatten p).1.2.map fun kv => (kv.1, f kv.2))).args = p.args.map f := by
  cases p; simp [partialUnflatten, partialFlatten]

/-- the partition depends on the `(name, init, pytree_node)` triples in field order only: decorator
options (`slots`, `frozen`, `kw_only`, `order`), per-field `kw_only` / defaults / inheritance and the
route (decorator or `make_dataclass`) do not change it: `c` and `c'` may differ in all of them.  (`via = 1`
mirrors `optree.dataclasses.make_dataclass`, which registers the class `dataclasses.make_dataclass` built without
decorating it a second time, so the `Field` objects and their `pytree_node` flags reach the partition:
optree/dataclasses.py:459-467.) -/
theorem C19_partition_options_irrelevant (c c' : DcCall)
    (hf : c.fields.map (fun f => (f.name, f.init, f.pytreeNode)) =
          c'.fields.map (fun f => (f.name, f.init, f.pytreeNode)))
    (h1 : c.alreadyDecorated = c'.alreadyDecorated) (h2 : c.nsEmpty = c'.nsEmpty)
    (h3 : c.isClass = c'.isClass) : dcPartition c = dcPartition c' := by
  -- the first guard and the two name lists are functions of the list of triples
  have hany : ∀ l : List FieldSpec, l.any (fun f => f.pytreeNode && !f.init) =
      (l.map fun f => (f.name, f.init, f.pytreeNode)).any fun t => t.2.2 && !t.2.1 := fun l => by
    rw [List.any_map]; rfl
  have hfil : ∀ (p : String × Bool × Bool → Bool) (l : List FieldSpec),
      (l.filter fun f => p (f.name, f.init, f.pytreeNode)).map (·.name) =
        ((l.map fun f => (f.name, f.init, f.pytreeNode)).filter p).map (·.1) := fun p l => by
    rw [List.filter_map, List.map_map]; rfl
  unfold dcPartition
  rw [hany, hfil (·.2.2), hfil (fun t => !t.2.2 && t.2.1), hf, ← hany, ← hfil, ← hfil, h1, h2, h3]

/-! ### non-vacuity -/

def C19_demo : DcCall :=
  { fields := [{ name := "x", init := true, pytreeNode := true }, { name := "tag", init := true, pytreeNode := false },
      { name := "y", init := true, pytreeNode := true }, { name := "norm", init := false, pytreeNode := false, dflt := 1 }],
    alreadyDecorated := false, nsEmpty := false, isClass := true }

example : dcPartition C19_demo = .ok (["x", "y"], ["tag"]) := by rfl

end Optree
