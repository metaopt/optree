/-
  C04  Paths and accessors address exactly the leaves.
-/
import OptreeModel.Model.Inspect
import OptreeModel.Lemmas.EncPaths
import OptreeModel.Lemmas.UpToAlign
import OptreeModel.Lemmas.EncAccessors

namespace Optree

def pathOf (a : List AccEntry) : List Key := a.map (·.entry)

/-- `hGo` is `accessorsGo_paths` at the same fuel: its induction supplies it -/
theorem accessorsChildren_paths {fuel : Nat}
    (hGo : ∀ nodes stack acc as rest, accessorsGo fuel nodes stack acc = .ok (as, rest) →
      pathsGo fuel nodes (pathOf stack) (acc.map pathOf) = .ok (as.map pathOf, rest))
    (es : List AccEntry) : ∀ nodes stack acc as rest,
      accessorsChildren fuel es nodes stack acc = .ok (as, rest) →
      pathsChildren fuel (pathOf es) nodes (pathOf stack) (acc.map pathOf) = .ok (as.map pathOf, rest) := by
  induction es with
  | nil =>
    intro nodes stack acc as rest h
    rw [accessorsChildren] at h
    cases h
    rw [pathOf, List.map_nil, pathsChildren]
  | cons e es ih =>
    intro nodes stack acc as rest h
    rw [accessorsChildren] at h
    cases hgo : accessorsGo fuel nodes (stack ++ [e]) acc with
    | error err => rw [hgo] at h; cases h
    | ok p =>
      rw [hgo] at h
      have h1 := hGo _ _ _ _ _ hgo
      simp only [pathOf, List.map_append, List.map_cons, List.map_nil] at h1
      simp only [pathOf, List.map_cons, pathsChildren, h1]
      exact ih _ _ _ _ _ h

/-- the index walkers `AccessorsImpl` and `PathsImpl` run in lock step -/
theorem accessorsGo_paths (fuel : Nat) : ∀ nodes stack acc as rest',
    accessorsGo fuel nodes stack acc = .ok (as, rest') →
    pathsGo fuel nodes (pathOf stack) (acc.map pathOf) = .ok (as.map pathOf, rest') := by
  induction fuel with
  | zero => intro _ _ _ _ _ h; rw [accessorsGo] at h; cases h
  | succ fuel ih =>
    intro nodes stack acc as rest' h
    cases nodes with
    | nil => rw [accessorsGo] at h; cases h
    | cons root rest =>
      rw [accessorsGo] at h
      rw [pathsGo]
      split at h
      · cases h
      · cases h
      rw [ite_error_eq_ok] at h
      obtain ⟨-, h⟩ := h
      -- both walkers branch on `root.entries, root.kind`: this splits the goal as well
      split at h
      · cases h; rfl
      · cases h; rfl
      split at h
      · cases h
      rw [ite_error_eq_ok] at h
      have := accessorsChildren_paths ih _ _ _ _ _ _ h.2
      rw [if_neg h.1]
      simpa only [pathOf, List.map_map, Function.comp_def, List.map_id'] using this

/-- **The path of the i-th accessor is the i-th path.**  Whenever `accessors()` succeeds on a
treespec, `paths()` succeeds and equals the accessors' `.path`s, entry by entry — for any node
array (no well-formedness assumption), any size.  (`Paths()` has a fast path for the one-node leaf
treespec, treated in `C04_path_of_accessor_leaf`.) -/
theorem C04_path_of_accessor (sp : Spec) (as : List (List AccEntry)) (h : accessors sp = .ok as)
    (hfast : (sp.numNodes == 1 && sp.numLeaves == 1) = false) :
    paths sp = .ok (as.map pathOf) := by
  rw [accessors, ite_error_eq_ok] at h
  rw [paths, if_neg h.1, hfast]
  by_cases h0 : (sp.numLeaves == 0) = true
  · rw [if_pos h0] at h ⊢
    cases h.2
    rfl
  rw [if_neg h0] at h ⊢
  cases hgo : accessorsGo (sp.nodes.length + 1) sp.nodes.reverse [] [] with
  | error e => rw [hgo] at h; cases h.2
  | ok p =>
    simp only [hgo, ite_error_eq_ok] at h
    obtain ⟨-, hrest, hlen, h⟩ := h
    cases h
    rw [show pathsGo _ _ [] [] = _ from accessorsGo_paths _ _ _ _ _ _ hgo]
    simp only [Bool.false_eq_true, if_false, List.length_map, if_neg hrest, if_neg hlen]

/-- the one-node leaf treespec: one empty accessor, one empty path -/
theorem C04_path_of_accessor_leaf (nil : Bool) (ns : String) :
    accessors ⟨[Node.leaf], nil, ns⟩ = .ok [[]] ∧ paths ⟨[Node.leaf], nil, ns⟩ = .ok [[]] :=
  ⟨accessors_enc .leaf rfl rfl rfl nil ns, paths_enc .leaf rfl rfl nil ns⟩

/-- `AutoEntry.__new__` never returns an `AutoEntry` -/
theorem C04_resolveEntryKind_not_auto (ek : EntryKind) (ty : TypeRef) :
    resolveEntryKind ek ty ≠ .auto := by
  unfold resolveEntryKind
  split
  · nofun
  · nofun
  · nofun
  · next h _ _ => exact h

/-- non-vacuity of `hfast`: a treespec of three nodes -/
def C04_demoSpec : Spec :=
  { nodes := [Node.leaf, Node.leaf,
              { kind := .tuple, arity := 2, data := .none, entries := Option.none, custom := Option.none,
                numLeaves := 2, numNodes := 3, originalKeys := Option.none }],
    noneIsLeaf := false, ns := "" }

example : (C04_demoSpec.numNodes == 1 && C04_demoSpec.numLeaves == 1) = false := by decide

/-! ### refinement: `paths()` lists the entries from the root to every leaf

`STree.pathsT s pre` (Model/STree.lean) is the documented meaning of a path: for a leaf, the entries
collected so far; for a node, the paths of its children, each extended by that child's entry (position,
dict key in the stored key order, or the entry the registration declares), concatenated in child order.
`None` nodes and childless containers contribute nothing. -/

/-- **`paths()` on an encoding is `pathsT`** (reversed-array index walk with an explicit stack), for all
shapes with one entry per child -/
theorem C04_paths_refines (s : STree) (hw : s.wf = true) (hk : s.entriesOk = true) (nil : Bool)
    (ns : String) : paths (s.spec nil ns) = .ok (s.pathsT []) := paths_enc s hw hk nil ns

/-- one path per leaf -/
theorem C04_paths_count (s : STree) (hk : s.entriesOk = true) (pre : List Key) :
    (s.pathsT pre).length = s.leaves := STree.pathsT_length s pre hk

/-- for a treespec made by flattening any well-formed tree: the paths are those of its shape, one per
leaf returned -/
theorem C04_paths_of_flatten (cfg : Cfg) (hp : cfg.pred = Option.none) (t : PyObj) (ht : t.wf = true)
    (ls : List PyObj) (sp : Spec) (h : flatten cfg t = .ok (ls, sp)) :
    ∃ ps, paths sp = .ok ps ∧ ps = (shapeOf cfg (!cfg.insertionOrdered) t).pathsT [] ∧ ps.length = ls.length := by
  have hk := eo cfg (!cfg.insertionOrdered) t
  exact ⟨_, paths_of_flatten cfg hp t ht ls sp h, rfl,
    by rw [C04_paths_count _ hk, (flatten_shapeOf cfg hp t ht ls sp h).2]⟩

def Incomparable (p q : List Key) : Prop := ¬ p <+: q ∧ ¬ q <+: p

theorem incomparable_of_entries (pre p q : List Key) (e e' : Key) (hne : e ≠ e')
    (hp : (pre ++ [e]) <+: p) (hq : (pre ++ [e']) <+: q) : Incomparable p q := by
  have one : ∀ {e e' p q}, e ≠ e' → (pre ++ [e]) <+: p → (pre ++ [e']) <+: q → ¬ p <+: q := by
    rintro e e' _ _ hne ⟨p', rfl⟩ ⟨q', rfl⟩ ⟨r, hr⟩
    simp only [List.append_assoc, List.append_cancel_left_eq, List.cons_append, List.cons.injEq] at hr
    exact hne hr.1
  exact ⟨one hne hp hq, one hne.symm hq hp⟩

mutual
/-- **the paths of a treespec are pairwise distinct and prefix-free** when the child entries of every
node are distinct -/
theorem C04_paths_prefix_free : ∀ (s : STree) (pre : List Key), s.entriesNodup = true →
    (s.pathsT pre).Pairwise Incomparable
  | .leaf, pre, _ => by simp [STree.pathsT]
  | .node i cs, pre, h => by
      simp only [STree.entriesNodup, Bool.and_eq_true, decide_eq_true_eq] at h
      exact C04_paths_prefix_freeL cs _ pre h.1 h.2
theorem C04_paths_prefix_freeL : ∀ (cs : List STree) (es pre : List Key), es.Nodup →
    STree.entriesNodupL cs = true → (STree.pathsL cs es pre).Pairwise Incomparable
  | [], _, _, _, _ => by simp [STree.pathsL]
  | _ :: _, [], _, _, _ => by simp [STree.pathsL]
  | c :: cs, e :: es, pre, hnd, h => by
      simp only [STree.entriesNodupL, Bool.and_eq_true] at h
      simp only [List.nodup_cons] at hnd
      simp only [STree.pathsL]
      rw [List.pairwise_append]
      refine ⟨C04_paths_prefix_free c (pre ++ [e]) h.1, C04_paths_prefix_freeL cs es pre hnd.2 h.2, ?_⟩
      intro p hp q hq
      obtain ⟨e', he', hq'⟩ := STree.pathsL_prefix cs es pre q hq
      have hne : e ≠ e' := fun heq => hnd.1 (heq ▸ he')
      exact incomparable_of_entries pre p q e e' hne (STree.pathsT_prefix c (pre ++ [e]) p hp) hq'
end

/-- **the i-th path addresses the i-th leaf**: following `treespec.paths()[i]` from the tree (position in a
sequence, key in a dict, the registration's entry in a custom node) reaches exactly the i-th leaf
`tree_flatten` returned — every well-formed tree, registry, dict-order mode (no predicate), provided the treespec
records the namespace of the configuration (`hns`; `flatten` records `""` unless it met a registered class or the
namespace is in insertion-ordered mode: `flatten_ns`).  By `C04_path_of_accessor` the i-th accessor carries the same
entries. -/
theorem C04_path_reaches_leaf (cfg : Cfg) (hp : cfg.pred = Option.none) (t : PyObj) (ht : t.wf = true)
    (ls : List PyObj) (sp : Spec) (h : flatten cfg t = .ok (ls, sp)) (hns : sp.ns = cfg.ns) :
    ∃ ps, paths sp = .ok ps ∧ ps.length = ls.length ∧
      ∀ (i : Nat) (p : List Key) (x : PyObj), ps[i]? = some p → ls[i]? = some x → PyObj.follow cfg t p = some x :=
  flattenUpTo_aligned cfg hp t t ht ls sp h hns ls (flattenUpTo_self cfg hp t ht ls sp h hns)

/-- non-vacuity: `{"a": (*, *), "b": *}` has the three paths `a.0`, `a.1`, `b` -/
def C04_demo : STree :=
  .node ⟨.dict, .keys [.str "a", .str "b"], Option.none, Option.none, some [.str "b", .str "a"]⟩
    [.node ⟨.tuple, .none, Option.none, Option.none, Option.none⟩ [.leaf, .leaf], .leaf]

example : C04_demo.wf = true ∧ C04_demo.entriesOk = true ∧ C04_demo.entriesNodup = true ∧
    C04_demo.pathsT [] = [[.str "a", .int 0], [.str "a", .int 1], [.str "b"]] := by decide

/-! ### refinement: `accessors()` lists the typed entries from the root to every leaf -/

/-- **`accessors()` on an encoding is the tree-level typed listing `accsT`** (all well-formed shapes with one
entry per child and typed nodes), and stripping the types gives `pathsT` -/
theorem C04_accessors_refines (s : STree) (hw : s.wf = true) (hk : s.entriesOk = true) (ht : s.typedOk = true)
    (nil : Bool) (ns : String) :
    accessors (s.spec nil ns) = .ok (s.accsT []) ∧ (s.accsT []).map pathOf = s.pathsT [] := by
  refine ⟨accessors_enc s hw hk ht nil ns, ?_⟩
  exact STree.accsT_path s [] hw ht

/-- **for a treespec made by flattening any well-formed tree `accessors()` succeeds**, returns one accessor per
leaf — the typed listing of the tree's shape — its entries are those of `paths()`, and following the entries of
the i-th accessor from the tree reaches the i-th leaf (`hns`: as for `C04_path_reaches_leaf`). -/
theorem C04_accessors_of_flatten (cfg : Cfg) (hp : cfg.pred = Option.none) (t : PyObj) (ht : t.wf = true)
    (ls : List PyObj) (sp : Spec) (h : flatten cfg t = .ok (ls, sp)) (hns : sp.ns = cfg.ns) :
    ∃ as, accessors sp = .ok as ∧ as = (shapeOf cfg (!cfg.insertionOrdered) t).accsT [] ∧
      as.length = ls.length ∧ paths sp = .ok (as.map pathOf) ∧
      ∀ (i : Nat) (a : List AccEntry) (x : PyObj), as[i]? = some a → ls[i]? = some x →
        PyObj.follow cfg t (pathOf a) = some x := by
  obtain ⟨e, hl⟩ := flatten_shapeOf cfg hp t ht ls sp h
  obtain ⟨w, _⟩ := wg cfg (!cfg.insertionOrdered) t ht
  have hk := eo cfg (!cfg.insertionOrdered) t
  have hty := ty cfg (!cfg.insertionOrdered) t
  obtain ⟨hacc, hpath⟩ := C04_accessors_refines _ w hk hty sp.noneIsLeaf sp.ns
  obtain ⟨ps, hps, hlen, hreach⟩ := C04_path_reaches_leaf cfg hp t ht ls sp h hns
  have hps' := hps
  rw [paths_of_flatten cfg hp t ht ls sp h, ← hpath, Except.ok.injEq] at hps'
  subst hps'
  refine ⟨_, by rw [e]; exact hacc, rfl, by rw [← hlen, List.length_map], hps, ?_⟩
  intro i a x h1 h2
  exact hreach i (pathOf a) x (by rw [List.getElem?_map, h1]; rfl) h2

theorem accEntries_resolved (i : NInfo) (n : Nat) : ∀ e ∈ i.accEntries n, e.ek ≠ .auto := by
  intro e he
  unfold NInfo.accEntries at he
  split at he
  · next ty ek h =>
    obtain ⟨k, -, rfl⟩ := List.mem_map.mp he
    unfold NInfo.accTy at h
    split at h
    · cases h; exact C04_resolveEntryKind_not_auto _ _
    · cases h
  · cases he

mutual
/-- every entry of every accessor has a concrete entry class (never the `AutoEntry` dispatcher itself) -/
theorem C04_accessor_entries_resolved : ∀ (s : STree) (pre : List AccEntry),
    (∀ e ∈ pre, e.ek ≠ .auto) → ∀ a ∈ s.accsT pre, ∀ e ∈ a, e.ek ≠ .auto
  | .leaf, pre, hpre, a, ha => by
      simp only [STree.accsT, List.mem_singleton] at ha
      subst ha; exact hpre
  | .node i cs, pre, hpre, a, ha => by
      simp only [STree.accsT] at ha
      exact C04_accessor_entries_resolvedL cs _ pre (accEntries_resolved i _) hpre a ha
theorem C04_accessor_entries_resolvedL : ∀ (cs : List STree) (es pre : List AccEntry),
    (∀ e ∈ es, e.ek ≠ .auto) → (∀ e ∈ pre, e.ek ≠ .auto) → ∀ a ∈ STree.accsL cs es pre, ∀ e ∈ a, e.ek ≠ .auto
  | [], _, _, _, _, a, ha => by simp [STree.accsL] at ha
  | _ :: _, [], _, _, _, a, ha => by simp [STree.accsL] at ha
  | c :: cs, e :: es, pre, hes, hpre, a, ha => by
      rw [List.forall_mem_cons] at hes
      simp only [STree.accsL, List.mem_append] at ha
      rcases ha with ha | ha
      · exact C04_accessor_entries_resolved c (pre ++ [e])
          (List.forall_mem_append.mpr ⟨hpre, List.forall_mem_singleton.mpr hes.1⟩) a ha
      · exact C04_accessor_entries_resolvedL cs es pre hes.2 hpre a ha
end

example : C04_demo.typedOk = true ∧
    (C04_demo.accsT []).map pathOf = [[.str "a", .int 0], [.str "a", .int 1], [.str "b"]] ∧
    ((C04_demo.accsT []).map fun a => a.map fun e => (e.kind, e.ek)) =
      [[(.dict, .mapping), (.tuple, .sequence)], [(.dict, .mapping), (.tuple, .sequence)], [(.dict, .mapping)]] := by decide

end Optree
