/-
  C08  Treespec inspection, constructors, transform and compose are consistent.
-/
import OptreeModel.Model.Serial
import OptreeModel.Lemmas.Control
import OptreeModel.Lemmas.EncInspect
import OptreeModel.Lemmas.EncTransform
import OptreeModel.Properties.C06
import OptreeModel.Properties.C02
import OptreeModel.Lemmas.Graft
import OptreeModel.Lemmas.UpToPrefix

namespace Optree

/-- **Python index semantics** of `child(i)` / `entry(i)`: valid exactly on `[-n, n)`, negative
indices count from the end -/
theorem C08_normIndex_none (i : Int) (n : Nat) :
    normIndex i n = Option.none ↔ (i < -(n : Int) ∨ i ≥ (n : Int)) := by
  unfold normIndex
  simp only [Bool.or_eq_true, decide_eq_true_eq]
  by_cases h : i < -(n : Int) ∨ i ≥ (n : Int)
  · rw [if_pos h]
    exact iff_of_true rfl h
  · rw [if_neg h]
    refine iff_of_false ?_ h
    split <;> exact Option.some_ne_none _

theorem C08_normIndex_some (i : Int) (n k : Nat) (h : normIndex i n = some k) :
    k < n ∧ ((0 ≤ i ∧ (k : Int) = i) ∨ (i < 0 ∧ (k : Int) = i + n)) :=
  normIndex_some h

/-- `child(i)` and `entry(i)` raise `IndexError` outside `[-n, n)` (on a sane treespec) -/
theorem C08_child_index_error (sp : Spec) (i : Int) (hs : sp.sane = true) (root : Node)
    (hr : sp.nodes.getLast? = some root) (hi : i < -(root.arity : Int) ∨ i ≥ (root.arity : Int)) :
    child sp i = .error .index ∧ entry sp i = .error .index := by
  have := (C08_normIndex_none i root.arity).mpr hi
  simp [child, entry, hs, hr, this]

/-- `entry(i)` is `entries()[i]` under Python index semantics -/
theorem entry_eq_entries (sp : Spec) (i : Int) :
    entry sp i = (entries sp).bind fun es =>
      match normIndex i sp.numChildren with
      | Option.none => .error .index
      | some k =>
          match es[k]? with
          | some e => .ok e
          | Option.none => .error .internal := by
  unfold entry entries
  split
  · rfl
  split
  · rfl
  rename_i root hroot
  have hn : sp.numChildren = root.arity := by simp only [Spec.numChildren, hroot]; rfl
  rw [hn]
  cases hk : normIndex i root.arity with
  | none => cases root.entries <;> rfl
  | some k =>
    cases root.entries with
    | some es => rfl
    | none =>
      have hlt := normIndex_lt hk
      simp only [Except.bind, Node.defaultEntries]
      -- `entry` and `defaultEntries` distinguish the kinds alike; positions are left
      split
      any_goals rfl
      simp only [intEntries, List.getElem?_map, List.getElem?_range hlt, Option.map_some]

/-- `entries()` and `entry(i)` agree (non-negative and negative indices) -/
theorem C08_entry_of_entries (sp : Spec) (i : Int) (e : Key) (es : List Key)
    (hes : entries sp = .ok es) (he : entry sp i = .ok e) :
    ∃ k, normIndex i sp.numChildren = some k ∧ es[k]? = some e := by
  rw [entry_eq_entries, hes] at he
  simp only [Except.bind] at he
  split at he
  · cases he
  rename_i k hk
  refine ⟨k, hk, ?_⟩
  split at he
  · rename_i e' hk'
    cases he
    exact hk'
  · cases he

/-- `one_level()` is a one-level treespec with the same root kind and arity -/
theorem C08_one_level (sp : Spec) (ol : Spec) (h : oneLevel sp = .ok ol) (hk : sp.kind ≠ .leaf) :
    ol.isOneLevel = true ∧ ol.kind = sp.kind ∧ ol.numChildren = sp.numChildren ∧ ol.sane = true := by
  simp only [oneLevel, ite_error_eq_ok] at h
  obtain ⟨-, h⟩ := h
  split at h
  · cases h
  rename_i root hroot
  cases h
  have hb : (root.kind == Kind.leaf) = false := by simpa [Spec.kind, hroot] using hk
  simp [oneLevelOf, Spec.isOneLevel, Spec.numNodes, Spec.numChildren, Spec.numLeaves, Spec.kind,
    Spec.sane, hroot, hb]

/-- **compose**: leaf and node counts multiply as documented; `none_is_leaf` is kept, the inner
namespace wins when present.  The counts hold because `compose` checks them before it answers; that the checks
never fire on encodings is `C08_compose_refines`. -/
theorem C08_compose_counts (a b c : Spec) (h : compose a b = .ok c) :
    c.numLeaves = a.numLeaves * b.numLeaves ∧
    c.numNodes = (a.numNodes - a.numLeaves) + a.numLeaves * b.numNodes ∧
    c.noneIsLeaf = a.noneIsLeaf ∧ c.ns = mergeNs a.ns b.ns ∧ c.sane = true := by
  simp only [compose, ite_error_eq_ok] at h
  obtain ⟨-, -, -, h⟩ := h
  generalize (a.nodes.flatMap _) = nodes at h
  split at h
  · cases h
  rename_i root hroot
  simp only [ite_error_eq_ok, bne_iff_ne, ne_eq, Decidable.not_not, Bool.not_eq_true, Bool.not_eq_false',
    Except.ok.injEq] at h
  obtain ⟨h1, h2, h3, rfl⟩ := h
  have hsane := h3
  simp only [Spec.sane, hroot, beq_iff_eq] at hsane
  exact ⟨by simp only [Spec.numLeaves, hroot, Option.map_some, Option.getD_some]; exact h1,
    by rw [← h2, hsane]; rfl, rfl, rfl, h3⟩

/-- mismatching `none_is_leaf` or conflicting namespaces are rejected with `ValueError` -/
theorem C08_compose_rejects (a b : Spec) (hs : a.sane = true ∧ b.sane = true)
    (h : a.noneIsLeaf ≠ b.noneIsLeaf ∨ nsCompatible a.ns b.ns = false) :
    compose a b = .error .value :=
  optionsGuard_rejects a b _ hs h

/-- `transform` with no functions is the identity -/
theorem C08_transform_none (sp : Spec) (hs : sp.sane = true) :
    transform sp Option.none Option.none = .ok sp := by
  simp [transform, hs]

/-- `treespec_leaf()` is a leaf; `treespec_none()` is a single node, a leaf exactly under `none_is_leaf` -/
theorem C08_make_leaf_none (nil : Bool) :
    (makeLeaf nil).isLeaf = true ∧ (makeLeaf nil).sane = true ∧
    (makeNone nil).numNodes = 1 ∧ (makeNone nil).numLeaves = (if nil then 1 else 0) ∧
    (makeNone nil).sane = true := by
  cases nil <;> decide

/-- **repr**: a leaf renders as `*`, `None` as `None`, and the `NoneIsLeaf` / `namespace=` suffixes
appear exactly when set -/
theorem C08_repr_affixes (names : Names) (sp : Spec) (r : String) (h : toString names sp = .ok r) :
    ∃ body, toStringGo names sp.nodes [] = .ok body ∧
      r = "PyTreeSpec(" ++ body ++ (if sp.noneIsLeaf then ", NoneIsLeaf" else "") ++
          (if sp.ns != "" then ", namespace='" ++ sp.ns ++ "'" else "") ++ ")" := by
  simp only [toString, ite_error_eq_ok] at h
  obtain ⟨-, h⟩ := h
  split at h
  · cases h
  · rename_i body hb
    cases h
    exact ⟨body, hb, rfl⟩

example : (match toString stdNames (makeLeaf true) with | .ok s => s == "PyTreeSpec(*, NoneIsLeaf)" | _ => false) = true := by decide
example : (match toString stdNames (makeNone false) with | .ok s => s == "PyTreeSpec(None)" | _ => false) = true := by decide

/-! ### refinement: the index walkers on encodings are the tree operations

`STree` (Model/STree.lean) is the shape a treespec stands for, `STree.spec` its treespec (post-order
array with counts).  For every shape, of any size and any pattern of sibling sub-tree sizes: -/

/-- **`children()` returns the child treespecs in order** (offset slicing by `num_nodes`, right to left) -/
theorem C08_children_refines (s : STree) (nil : Bool) (ns : String) :
    children (s.spec nil ns) = .ok (s.children.map fun c => c.spec nil ns) := children_enc s nil ns

/-- **`child(i)` is the `i`-th child under Python index semantics**, `IndexError` exactly outside `[-n, n)` -/
theorem C08_child_refines (s : STree) (nil : Bool) (ns : String) (index : Int) :
    child (s.spec nil ns) index =
      match normIndex index s.children.length with
      | Option.none => .error .index
      | some j =>
          match s.children[j]? with
          | some c => .ok (c.spec nil ns)
          | Option.none => .error .index := child_enc s nil ns index

/-- `child(i)` agrees with `children()[i]` for every valid index, negative ones included -/
theorem C08_child_of_children (s : STree) (nil : Bool) (ns : String) (index : Int) (j : Nat)
    (hj : normIndex index s.children.length = some j) :
    ∃ cs c, children (s.spec nil ns) = .ok cs ∧ cs[j]? = some c ∧ child (s.spec nil ns) index = .ok c := by
  have hlt := normIndex_lt hj
  refine ⟨_, (s.children[j]).spec nil ns, children_enc s nil ns, ?_, ?_⟩
  · simp [hlt]
  · rw [child_enc, hj]
    simp [hlt]

/-- the counts of a node are the sums over its children (plus the node itself) -/
theorem C08_counts_sum (i : NInfo) (cs : List STree) (nil : Bool) (ns : String) :
    ((STree.node i cs).spec nil ns).numNodes = (cs.map fun c => (c.spec nil ns).numNodes).sum + 1 ∧
    ((STree.node i cs).spec nil ns).numLeaves = (cs.map fun c => (c.spec nil ns).numLeaves).sum ∧
    ((STree.node i cs).spec nil ns).numChildren = cs.length := by
  refine ⟨?_, ?_, ?_⟩
  · simp only [STree.spec_numNodes, STree.size, STree.sizeL_eq_sum]
  · simp only [STree.spec_numLeaves, STree.leaves, STree.leavesL_eq_sum]
  · simp [STree.spec, Spec.numChildren, STree.enc_getLast?, STree.root, NInfo.toNode]

/-- **`compose` substitutes the inner shape for every leaf of the outer one**; the result is again the
encoding of a well-formed shape; leaves multiply -/
theorem C08_compose_refines (a b : STree) (ha : a.wf = true) (hb : b.wf = true) (nil : Bool)
    (ns ns' : String) (hc : nsCompatible ns ns' = true) :
    compose (a.spec nil ns) (b.spec nil ns') = .ok ((a.subst b).spec nil (mergeNs ns ns')) ∧
    (a.subst b).wf = true ∧ (a.subst b).leaves = a.leaves * b.leaves :=
  ⟨compose_enc a b ha nil ns ns' hc, STree.subst_wf b hb a ha, STree.subst_leaves b a⟩

/-- composing the leaf treespec with `a` gives `a` -/
theorem C08_compose_leaf (a : STree) : STree.leaf.subst a = a := rfl

mutual
/-- composing with the leaf treespec changes nothing -/
theorem C08_compose_leaf_right : ∀ a : STree, a.subst .leaf = a
  | .leaf => rfl
  | .node i cs => by simp [STree.subst, C08_compose_leaf_rightL cs]
theorem C08_compose_leaf_rightL : ∀ cs : List STree, STree.substL cs .leaf = cs
  | [] => rfl
  | c :: cs => by simp [STree.substL, C08_compose_leaf_right c, C08_compose_leaf_rightL cs]
end

/-- **`transform` replacing every leaf by the treespec of `b` builds the shape `compose` builds** (left-to-right
loop with a stack of pending counts; the namespace of the outer treespec is kept) -/
theorem C08_transform_leaf_refines (a b : STree) (ha : a.wf = true) (nil : Bool) (ns nsb : String)
    (hnsb : nsb = ns ∨ nsb = "") :
    transform (a.spec nil ns) Option.none (some fun _ => .ok (b.spec nil nsb)) = .ok ((a.subst b).spec nil ns) :=
  transform_enc a b ha nil ns nsb hnsb

/-- ... and therefore equals `compose` whenever the latter keeps the outer namespace -/
theorem C08_transform_leaf_is_compose (a b : STree) (ha : a.wf = true) (nil : Bool) (ns : String) :
    transform (a.spec nil ns) Option.none (some fun _ => .ok (b.spec nil ns)) =
      compose (a.spec nil ns) (b.spec nil ns) := by
  rw [C08_transform_leaf_refines a b ha nil ns ns (Or.inl rfl),
    compose_enc a b ha nil ns ns (by simp [nsCompatible])]
  simp [mergeNs]

/-- **`transform` with a leaf function that returns the leaf treespec (the identity) is the identity** -/
theorem C08_transform_id (a : STree) (ha : a.wf = true) (nil : Bool) (ns : String) :
    transform (a.spec nil ns) Option.none (some fun _ => .ok (STree.leaf.spec nil ns)) = .ok (a.spec nil ns) := by
  rw [C08_transform_leaf_refines a .leaf ha nil ns ns (Or.inl rfl), C08_compose_leaf_right a]

/-- the namespace a rebuilt treespec carries: the children's (none when there are no children) -/
def rebuiltNs (cs : List STree) (ns : String) : String := if cs.isEmpty then "" else ns

/-- what `MakeFromCollection` does for a built-in container whose children are the treespecs of the shapes `cs`:
they verify, and the assembled treespec is that of the node over `cs` -/
theorem plain_shape (nil : Bool) (ns : String) (cs : List STree) (kind : Kind) (data : NodeData)
    (okeys : Option (List Key)) (hk : kind ≠ .leaf) :
    (match verifyChildren nil ns false (cs.map fun (c : STree) => c.spec nil ns) with
      | .error e => Except.error e
      | .ok ns' => Except.ok (assemble nil ns' (cs.map fun (c : STree) => c.spec nil ns) kind data
          Option.none Option.none okeys)) =
      .ok ((STree.node (plainInfo kind data okeys) cs).spec nil (rebuiltNs cs ns)) := by
  rw [verifyChildren_uniform nil ns cs]
  exact congrArg Except.ok (assemble_enc _ _ cs _ _ kind _ _ _ _ hk)

/-- **`treespec_tuple / list / deque` over `children()` rebuild the root**: for every node of those kinds,
`MakeFromCollection` applied to the collection of its child treespecs returns the same node array (namespace
of the children) -/
theorem C08_rebuild_from_children (cfg : Cfg) (cs : List STree) :
    makeFromCollection cfg (.tuple (cs.map fun c => c.spec cfg.noneIsLeaf cfg.ns)) =
      .ok ((STree.node ⟨.tuple, .none, Option.none, Option.none, Option.none⟩ cs).spec cfg.noneIsLeaf
        (rebuiltNs cs cfg.ns)) ∧
    makeFromCollection cfg (.list (cs.map fun c => c.spec cfg.noneIsLeaf cfg.ns)) =
      .ok ((STree.node ⟨.list, .none, Option.none, Option.none, Option.none⟩ cs).spec cfg.noneIsLeaf
        (rebuiltNs cs cfg.ns)) ∧
    (∀ m, makeFromCollection cfg (.deque m (cs.map fun c => c.spec cfg.noneIsLeaf cfg.ns)) =
      .ok ((STree.node ⟨.deque, .maxlen m, Option.none, Option.none, Option.none⟩ cs).spec cfg.noneIsLeaf
        (rebuiltNs cs cfg.ns))) :=
  ⟨plain_shape cfg.noneIsLeaf cfg.ns cs .tuple .none Option.none (by decide),
    plain_shape cfg.noneIsLeaf cfg.ns cs .list .none Option.none (by decide),
    fun m => plain_shape cfg.noneIsLeaf cfg.ns cs .deque (.maxlen m) Option.none (by decide)⟩

/-- the same for an `OrderedDict` of child treespecs (keys kept in the given order) -/
theorem C08_rebuild_ordereddict (cfg : Cfg) (ks : List Key) (cs : List STree) (hl : ks.length = cs.length) :
    makeFromCollection cfg (.odict (ks.zip (cs.map fun c => c.spec cfg.noneIsLeaf cfg.ns))) =
      .ok ((STree.node ⟨.ordereddict, .keys ks, Option.none, Option.none, Option.none⟩ cs).spec cfg.noneIsLeaf
        (rebuiltNs cs cfg.ns)) := by
  have h1 : (ks.zip (cs.map fun c => c.spec cfg.noneIsLeaf cfg.ns)).map (·.2) =
      cs.map fun c => c.spec cfg.noneIsLeaf cfg.ns := List.map_snd_zip (by simp [hl])
  have h2 : (ks.zip (cs.map fun c => c.spec cfg.noneIsLeaf cfg.ns)).map (·.1) = ks :=
    List.map_fst_zip (by simp [hl])
  simp only [makeFromCollection, h1, h2]
  exact plain_shape cfg.noneIsLeaf cfg.ns cs .ordereddict (.keys ks) Option.none (by decide)

/-- hence `treespec_tuple(spec.children()) == spec` for a tuple treespec: equal node arrays, namespaces
compatible -/
theorem C08_rebuild_equal (cfg : Cfg) (cs : List STree) (hw : STree.wfL cs = true) :
    let s : STree := .node ⟨.tuple, .none, Option.none, Option.none, Option.none⟩ cs
    ∃ sp cs', children (s.spec cfg.noneIsLeaf cfg.ns) = .ok cs' ∧ makeFromCollection cfg (.tuple cs') = .ok sp ∧
      equalTo sp (s.spec cfg.noneIsLeaf cfg.ns) = .ok true := by
  intro s
  have hs : s.wf = true := by simp [s, STree.wf, hw, Kind.isDict]
  refine ⟨_, _, children_enc s _ _, (C08_rebuild_from_children cfg cs).1, ?_⟩
  rw [equalTo_enc_true s s hs hs]
  refine ⟨rfl, ?_, C06_shape_eq_refl s⟩
  unfold rebuiltNs nsCompatible
  split <;> simp

/-- non-vacuity: sibling sub-trees of sizes 1, 3, 2 -/
def C08_demo : STree :=
  .node ⟨.tuple, .none, Option.none, Option.none, Option.none⟩
    [.leaf, .node ⟨.list, .none, Option.none, Option.none, Option.none⟩ [.leaf, .leaf],
     .node ⟨.tuple, .none, Option.none, Option.none, Option.none⟩ [.leaf]]

example : C08_demo.wf = true ∧ C08_demo.size = 7 ∧ (C08_demo.subst C08_demo).leaves = 16 := by decide

/-- **`a.compose(b)` is the structure of an a-shaped tree whose every leaf is a b-shaped tree, and the leaves of
such a tree are the leaves of the b-shaped trees in order (so `num_leaves` multiply).**
`ta.mapLeaves cfg σ` replaces every leaf of `ta` by `σ leaf`; every `σ leaf` has the shape of `tb` (`hσ`).  `hc`: the
grafted tree flattens at all, i.e. it is within the depth limit.  (`Lemmas/Graft.lean`; grafting keeps the keys of a
dict, so its children are visited in the same order.) -/
theorem C08_compose_is_structure (cfg : Cfg) (hp : cfg.pred = Option.none) (ta tb : PyObj)
    (hwa : ta.wf = true) (hwb : tb.wf = true) (σ : PyObj → PyObj) (hσw : ∀ p, (σ p).wf = true)
    (hσ : ∀ p, shapeOf cfg (!cfg.insertionOrdered) (σ p) = shapeOf cfg (!cfg.insertionOrdered) tb)
    (la : List PyObj) (sa : Spec) (ha : flatten cfg ta = .ok (la, sa))
    (lb : List PyObj) (sb : Spec) (hb : flatten cfg tb = .ok (lb, sb))
    (lc : List PyObj) (sc : Spec) (hc : flatten cfg (ta.mapLeaves cfg σ) = .ok (lc, sc)) :
    (∃ c, compose sa sb = .ok c ∧ c.nodes = sc.nodes ∧ c.noneIsLeaf = sc.noneIsLeaf) ∧
      lc = la.flatMap (fun p => leavesOf cfg (!cfg.insertionOrdered) (σ p)) ∧
      sc.numLeaves = sa.numLeaves * sb.numLeaves := by
  obtain ⟨ea, _⟩ := flatten_shapeOf cfg hp ta hwa la sa ha
  obtain ⟨eb, _⟩ := flatten_shapeOf cfg hp tb hwb lb sb hb
  obtain ⟨ec, _⟩ := flatten_shapeOf cfg hp _ (wf_mapLeaves cfg σ hσw ta hwa) lc sc hc
  rw [shapeOf_mapLeaves cfg _ σ _ hσ ta] at ec
  obtain ⟨wa, _⟩ := wg cfg (!cfg.insertionOrdered) ta hwa
  obtain ⟨wb, _⟩ := wg cfg (!cfg.insertionOrdered) tb hwb
  have hcompat : nsCompatible sa.ns sb.ns = true := by
    unfold nsCompatible
    rcases (flatten_ns ha).1 with h | h <;> rcases (flatten_ns hb).1 with h' | h' <;> simp [h, h']
  obtain ⟨hcomp, _, hleaves⟩ := C08_compose_refines _ _ wa wb cfg.noneIsLeaf sa.ns sb.ns hcompat
  rw [← ea, ← eb] at hcomp
  refine ⟨⟨_, hcomp, ?_, ?_⟩, ?_, ?_⟩
  · rw [ec]
    rfl
  · rw [ec]
    rfl
  · rw [C02_leaf_order cfg _ lc sc hc, leavesOf_mapLeaves cfg hp _ σ ta, ← C02_leaf_order cfg ta la sa ha]
  · rw [ec, ea, eb]
    simp only [STree.spec_numLeaves]
    exact hleaves

/-- non-vacuity: `(x, [y])` grafted with `{"k": *}`-shaped trees -/
example :
    let cfg : Cfg := {}
    let ta := PyObj.tuple [.leaf 0 1, .list [.leaf 0 2]]
    let tb := PyObj.dict [(.str "k", .leaf 0 3)]
    let σ : PyObj → PyObj := fun p => .dict [(.str "k", p)]
    (match flatten cfg ta, flatten cfg tb, flatten cfg (ta.mapLeaves cfg σ) with
     | .ok (_, sa), .ok (_, sb), .ok (lc, sc) =>
        (match compose sa sb with
         | .ok c => c.nodes == sc.nodes && lc == [PyObj.leaf 0 1, .leaf 0 2] && sc.numLeaves == 2
         | .error _ => false)
     | _, _, _ => false) = true := by decide

/-- the treespec of a sub-tree, as `tree_structure` returns it -/
def specOf (cfg : Cfg) (x : PyObj) : Spec :=
  (shapeOf cfg (!cfg.insertionOrdered) x).spec cfg.noneIsLeaf cfg.ns

/-- the same container with every child replaced by its treespec: the argument of
`treespec_from_collection` / `treespec_tuple` / `treespec_dict` / … -/
def collOf (cfg : Cfg) : PyObj → Coll
  | .leaf _ _ => .leafObj
  | .none => .none
  | .tuple xs => .tuple (xs.map (specOf cfg))
  | .list xs => .list (xs.map (specOf cfg))
  | .dict kvs => .dict (kvs.map fun p => (p.1, specOf cfg p.2))
  | .odict kvs => .odict (kvs.map fun p => (p.1, specOf cfg p.2))
  | .ddict f kvs => .ddict f (kvs.map fun p => (p.1, specOf cfg p.2))
  | .deque m xs => .deque m (xs.map (specOf cfg))
  | .ntuple cls xs => .ntuple cls (xs.map (specOf cfg))
  | .sseq cls xs => .sseq cls (xs.map (specOf cfg))
  | .user cls md q xs => .user cls md q (xs.map (specOf cfg))

/-- containers handled by the engine itself (no registered flatten function is consulted) -/
def PyObj.plainNode (cfg : Cfg) : PyObj → Bool
  | .tuple _ | .list _ | .dict _ | .odict _ | .ddict _ _ | .deque _ _ => true
  | .ntuple cls _ => (cfg.reg.lookup cfg.ns 1 cls).isNone
  | .sseq cls _ => (cfg.reg.lookup cfg.ns 2 cls).isNone
  | _ => false

/-- `MakeFromCollection` over `collOf t` through the view of `t`: the children's treespecs in visiting order,
under the record of the node -/
theorem makeFromCollection_view (cfg : Cfg) (t : PyObj) (hpl : t.plainNode cfg = true) :
    ∃ k data ok cs, t.view cfg (!cfg.insertionOrdered) = .node k data ok cs ∧
      makeFromCollection cfg (collOf cfg t) =
        match verifyChildren cfg.noneIsLeaf cfg.ns false (cs.map (specOf cfg)) with
        | .error e => .error e
        | .ok ns => .ok (assemble cfg.noneIsLeaf ns (cs.map (specOf cfg)) k data Option.none Option.none ok) := by
  cases t with
  | leaf a b | none | user c m q xs => cases hpl
  | tuple xs | list xs | deque m xs => exact ⟨_, _, _, _, rfl, rfl⟩
  | dict kvs | odict kvs | ddict f kvs =>
    refine ⟨_, _, _, _, rfl, ?_⟩
    simp only [collOf, makeFromCollection, dictOrder_mapVals, List.map_map, Function.comp_def]
    rfl
  | ntuple cls xs | sseq cls xs =>
    simp only [PyObj.plainNode, Option.isNone_iff_eq_none] at hpl
    simp only [collOf, makeFromCollection, PyObj.view, hpl]
    exact ⟨_, _, _, _, rfl, rfl⟩

/-- **a constructor applied to the child treespecs is the structure of the tree**: for every container the
engine handles itself — tuple, list, deque, dict, OrderedDict, defaultdict (the dict kinds with their keys sorted
or in insertion order as the namespace's mode says), unregistered namedtuple and struct-sequence classes —
`treespec_from_collection` over the same container holding the children's treespecs returns exactly the node
array `tree_structure` returns for the tree (namespace: that of the children). -/
theorem C08_constructor_is_structure (cfg : Cfg) (t : PyObj) (hpl : t.plainNode cfg = true) :
    ∃ cs, (∃ i, shapeOf cfg (!cfg.insertionOrdered) t = .node i cs) ∧
      makeFromCollection cfg (collOf cfg t) =
        .ok ((shapeOf cfg (!cfg.insertionOrdered) t).spec cfg.noneIsLeaf (rebuiltNs cs cfg.ns)) := by
  obtain ⟨k, data, ok, cs, hv, hm⟩ := makeFromCollection_view cfg t hpl
  have hk : k ≠ .leaf := by
    have := t.view_plain cfg (!cfg.insertionOrdered)
    rw [hv] at this
    exact this.ne_leaf
  have hs : shapeOf cfg (!cfg.insertionOrdered) t =
      .node (plainInfo k data ok) (cs.map (shapeOf cfg (!cfg.insertionOrdered))) := by
    rw [shapeOf_view, hv]
  have hc : cs.map (specOf cfg) =
      (cs.map (shapeOf cfg (!cfg.insertionOrdered))).map fun c => c.spec cfg.noneIsLeaf cfg.ns := by
    rw [List.map_map]
    rfl
  rw [hs, hm, hc]
  exact ⟨_, ⟨_, rfl⟩, plain_shape cfg.noneIsLeaf cfg.ns _ k data ok hk⟩

/-- hence, for every tree whose root the engine handles itself: the constructor over the children's treespecs
and `tree_structure` of the tree return the same node array -/
theorem C08_constructor_matches_flatten (cfg : Cfg) (hp : cfg.pred = Option.none) (t : PyObj) (ht : t.wf = true)
    (hpl : t.plainNode cfg = true) (ls : List PyObj) (sp : Spec) (h : flatten cfg t = .ok (ls, sp)) :
    ∃ sp', makeFromCollection cfg (collOf cfg t) = .ok sp' ∧ sp'.nodes = sp.nodes ∧
      sp'.noneIsLeaf = sp.noneIsLeaf := by
  obtain ⟨e, _⟩ := flatten_shapeOf cfg hp t ht ls sp h
  obtain ⟨cs, _, hm⟩ := C08_constructor_is_structure cfg t hpl
  refine ⟨_, hm, ?_, ?_⟩
  · rw [e]
    rfl
  · rw [e]
    rfl

/-- non-vacuity: `treespec_dict({"b": *, "a": (*, *)})` has its keys sorted, like the structure of the tree -/
example :
    let cfg : Cfg := {}
    let t : PyObj := .dict [(.str "b", .leaf 0 1), (.str "a", .tuple [.leaf 0 2, .leaf 0 3])]
    t.plainNode cfg = true ∧
    (match makeFromCollection cfg (collOf cfg t), flatten cfg t with
      | .ok sp', .ok (_, sp) => sp'.nodes == sp.nodes && sp'.nodes.length == 5
      | _, _ => false) = true := by decide

/-- **`transform(f_node, f_leaf)` rewrites every node and replaces every leaf**: if `f_node` answers, for the
one-level treespec of a node with information `i` and `k` children, the one-level treespec of `g i k` with `k`
children (in the same namespace or none), and `f_leaf` always answers the treespec of `b`, then `transform`
returns the encoding of the tree with every node's information rewritten by `g` and every leaf replaced by `b`
— all well-formed shapes, any nesting (the result must itself be well-formed: `g` keeps dict keys distinct etc.) -/
theorem C08_transform_node_refines (a b : STree) (g : NInfo → Nat → NInfo) (ha : a.wf = true)
    (ha' : (a.mapInfo g).wf = true) (nil : Bool) (ns nsb : String) (hnsb : nsb = ns ∨ nsb = "")
    (fN : Spec → Except Err Spec)
    (hN : ∀ (i : NInfo) (k : Nat), i.kind ≠ .leaf → ∃ nsT, (nsT = ns ∨ nsT = "") ∧
      fN (olSpec nil ns i k) = .ok (olSpec nil nsT (g i k) k)) :
    transform (a.spec nil ns) (some fN) (some fun _ => .ok (b.spec nil nsb)) =
      .ok (((a.mapInfo g).subst b).spec nil ns) :=
  transform_node_enc a b g ha ha' nil ns nsb hnsb fN hN

/-- leaves multiply as for `compose`: the node function cannot change their number -/
theorem C08_transform_node_counts (a b : STree) (g : NInfo → Nat → NInfo) :
    ((a.mapInfo g).subst b).leaves = a.leaves * b.leaves := by
  rw [STree.subst_leaves, STree.mapInfo_leaves]

/-- a node function for the example below: every list node becomes a tuple node.  (The example evaluates the
conclusion of `C08_transform_node_refines` on one shape; `C08_listToTupleFn` keeps the payload of a root record
where `C08_listToTuple` resets it, so the pair meets the hypothesis `hN` only at records without payload.) -/
def C08_listToTuple (i : NInfo) (_ : Nat) : NInfo :=
  if i.kind == .list then ⟨.tuple, .none, Option.none, Option.none, Option.none⟩ else i

def C08_listToTupleFn (sp : Spec) : Except Err Spec :=
  match sp.nodes.getLast? with
  | some r =>
      if r.kind == .list then
        .ok { sp with nodes := sp.nodes.dropLast ++ [{ r with kind := .tuple }] }
      else .ok sp
  | Option.none => .error .internal

example :
    let a : STree := .node ⟨.list, .none, Option.none, Option.none, Option.none⟩
      [.leaf, .node ⟨.tuple, .none, Option.none, Option.none, Option.none⟩ [.leaf, .node ⟨.list, .none, Option.none, Option.none, Option.none⟩ []]]
    a.wf = true ∧ (a.mapInfo C08_listToTuple).wf = true ∧
    (match transform (a.spec false "") (some C08_listToTupleFn) (some fun _ => .ok (STree.leaf.spec false "")) with
      | .ok sp => sp.nodes == ((a.mapInfo C08_listToTuple).subst .leaf).enc
      | .error _ => false) = true := by decide

end Optree
