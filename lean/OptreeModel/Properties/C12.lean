/-
  C12  Registry changes are namespace-isolated, atomic and reversible.
  All statements are for every class universe `info`, every warnings mode, every state reachable
  by any history of calls (successful or failing).
-/
import OptreeModel.Lemmas.RegSM

namespace Optree

/-- the two engine variants and the Python mirror describe the same registrations -/
def RState.Inv (s : RState) : Prop := s.node = s.leaf ∧ s.node = s.mirror

theorem C12_inv_init : RState.init.Inv := ⟨rfl, rfl⟩

theorem C12_inv_step (info : Nat → ClsInfo) (w : Bool) (s : RState) (rid : Nat) (op : ROp)
    (h : s.Inv) : (rstep info w s rid op).1.Inv := by
  rw [rstep_eq]
  cases firstErr (op.checks info w s.node)
  · exact ⟨congrArg (op.edit rid) h.1, congrArg (op.edit rid) h.2⟩
  · exact h

/-- **Invariant.**  The three tables agree in every state a history of calls reaches, whatever succeeded or
failed on the way and whatever the warnings filter at each call. -/
theorem C12_inv_any_filter (info : Nat → ClsInfo) (ops : List (Bool × ROp)) (s : RState) (i : Nat)
    (h : s.Inv) : (rrunW info s i ops).Inv := by
  induction ops generalizing s i with
  | nil => exact h
  | cons op ops ih => exact ih _ _ (C12_inv_step info op.1 s i op.2 h)

/-- The same under one warnings filter. -/
theorem C12_inv (info : Nat → ClsInfo) (w : Bool) (ops : List ROp) (s : RState) (i : Nat)
    (h : s.Inv) : (rrun info w s i ops).Inv := by
  rw [rrun_eq_rrunW]
  exact C12_inv_any_filter info _ s i h

/-- **Atomicity.**  A call that raises — for any reason, including a warning turned into an error —
leaves the registry exactly as it was. -/
theorem C12_atomic (info : Nat → ClsInfo) (w : Bool) (s : RState) (rid : Nat) (op : ROp) (e : RErr)
    (h : (rstep info w s rid op).2 = some e) : (rstep info w s rid op).1 = s := by
  rw [rstep_eq] at h ⊢
  generalize firstErr (op.checks info w s.node) = o at h ⊢
  cases o
  · exact nomatch h
  · rfl

/-- the entry for `(k', c')` of the engine table is untouched by a call about another key -/
theorem C12_step_other_key (info : Nat → ClsInfo) (w : Bool) (s : RState) (rid : Nat) (op : ROp)
    (k' : String) (c' : Nat)
    (h : match op with
      | .reg c ns _ | .regClass c ns | .unreg c ns => ¬ (k' = ns.key ∧ c' = c)) :
    (rstep info w s rid op).1.node.find k' c' = s.node.find k' c' := by
  rw [rstep_eq]
  cases firstErr (op.checks info w s.node)
  · cases op
    · exact RTable.find_append_other h
    · exact RTable.find_append_other h
    · exact RTable.find_remove_other h
  · rfl

/-- **Namespace isolation.**  A call made in namespace `N` (not the global one) never alters what
flattening does in another namespace `N'`. -/
theorem C12_isolation (info : Nat → ClsInfo) (w : Bool) (s : RState) (rid : Nat) (op : ROp)
    (N N' : String) (hN : N ≠ "") (hNN : N' ≠ N)
    (hop : match op with
      | .reg _ ns _ | .regClass _ ns | .unreg _ ns => ns = .named N)
    (c : Nat) :
    engineObs info (rstep info w s rid op).1.node N' c = engineObs info s.node N' c := by
  have key : ∀ k, k ≠ N → (rstep info w s rid op).1.node.find k c = s.node.find k c := by
    intro k hk
    apply C12_step_other_key
    cases op <;> simp only at hop ⊢ <;> subst hop <;> exact fun h => hk h.1
  unfold engineObs RTable.lookup
  rw [key N' hNN, key "" (Ne.symm hN)]

/-- built-in node types can never be re-registered or unregistered -/
theorem C12_builtins (info : Nat → ClsInfo) (w : Bool) (s : RState) (rid : Nat) (c : Nat)
    (ns : RNs) (bad : Bool) (hb : info c = .builtin) :
    (rstep info w s rid (.reg c ns bad)).2.isSome ∧ (rstep info w s rid (.unreg c ns)).2.isSome ∧
    (rstep info w s rid (.regClass c ns)).2.isSome :=
  ⟨rstep_raises (by simp [ROp.checks, regChecks, hb]),
   rstep_raises (by simp [ROp.checks, hb]),
   rstep_raises (by simp [ROp.checks, regChecks, hb])⟩

/-- the same (type, namespace) cannot be registered twice -/
theorem C12_no_double (info : Nat → ClsInfo) (w : Bool) (s : RState) (rid : Nat) (c : Nat)
    (ns : RNs) (bad : Bool) (h : (s.node.find ns.key c).isSome) :
    (rstep info w s rid (.reg c ns bad)).2.isSome :=
  rstep_raises (by simp [ROp.checks, regChecks, h])

/-- unregistering something absent fails -/
theorem C12_unregister_absent (info : Nat → ClsInfo) (w : Bool) (s : RState) (rid : Nat) (c : Nat)
    (ns : RNs) (h : (s.node.find ns.key c).isNone) :
    (rstep info w s rid (.unreg c ns)).2.isSome :=
  rstep_raises (by simp [ROp.checks, h])

/-- **The Python-visible registry describes what flattening does**, with a class … -/
theorem C12_get_describes_flatten (info : Nat → ClsInfo) (s : RState) (h : s.Inv) (ns : String)
    (c : Nat) : pyGet info s ns c = engineObs info s.node ns c ∧
                pyGet info s ns c = engineObs info s.leaf ns c := by
  rw [← h.1, h.2, and_self]
  -- `pyGet` searches the mirror the way `Lookup` searches an engine table
  unfold pyGet engineObs RTable.lookup
  cases (if ns != "" then s.mirror.find ns c else Option.none) <;> rfl

/-- … and without a class (the whole-namespace dictionary) -/
theorem C12_getall_describes_flatten (info : Nat → ClsInfo) (s : RState) (h : s.Inv) (ns : String)
    (c : Nat) :
    engineObs info s.node ns c =
      (match pyGetAll s ns c with
       | some r => .custom r
       | Option.none => defaultObs info c) := by
  -- `pyGetAll s` is `s.mirror.lookup` written out
  rw [h.2]; rfl

/-- **Reversibility.**  A registration that succeeded is undone exactly by unregistering the same class in the same
namespace in the next call: that call succeeds and all three tables are what they were before the registration,
whatever the warnings filter of either call. -/
theorem C12_register_then_unregister (info : Nat → ClsInfo) (w w' : Bool) (s s' : RState) (rid rid' : Nat)
    (cls : Nat) (ns : RNs) (bad : Bool) (hinv : s.Inv)
    (h : rstep info w s rid (.reg cls ns bad) = (s', Option.none)) :
    rstep info w' s' rid' (.unreg cls ns) = (s, Option.none) := by
  have hp := rstep_passes.1 (congrArg Prod.snd h)
  rw [rstep_of_passes hp] at h
  obtain rfl := (Prod.mk.inj h).1
  simp only [ROp.checks, regChecks, List.any_cons, List.any_nil, Bool.or_false, Bool.or_eq_false_iff,
    Option.isSome_eq_false_iff, Option.isNone_iff_eq_none] at hp
  obtain ⟨h1, _, h3, h4, hf, _⟩ := hp
  -- the unregistration passes its four checks (three of them were checks of the registration) …
  refine (rstep_of_passes (by simp [ROp.checks, ROp.edit, h1, h3, h4, RTable.find_append_self])).trans ?_
  -- … and removing the appended row from the three equal tables gives them back
  obtain ⟨e1, e2⟩ := hinv
  obtain ⟨node, leaf, mirror⟩ := s
  dsimp only at e1 e2 hf
  subst e1 e2
  simp only [ROp.edit, RTable.remove_append_self hf]

/-! ### non-vacuity -/

def C12_demoInfo : Nat → ClsInfo
  | 0 => .plain true | 1 => .namedtuple | 2 => .builtin | 3 => .nonClass | _ => .plain false

/-- a history with successes and failures of every kind, and the engine table it ends in -/
example :
    let ops := [ROp.reg 0 (.named "a") false, .reg 0 .glob false, .reg 0 (.named "a") false,
                .reg 1 .glob false, .reg 2 .glob false, .reg 3 .glob false, .unreg 0 (.named "b"),
                .unreg 0 (.named "a"), .regClass 4 (.named "b"), .reg 0 .empty false]
    (rrun C12_demoInfo true RState.init 0 ops).node = [(("", 0), 1)] := by decide

end Optree
