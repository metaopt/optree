/-
  `prefix_errors` (Model/PrefixErrors.lean) against the tree-level matcher `STree.upTo` that `flatten_up_to` refines:
  `prefix_errors` reports nothing exactly when the match succeeds — for every prefix tree without registered custom
  nodes and *every* full tree (`pe_agree`), and for every prefix tree, registered custom nodes included, when the
  registry is consistent and the flatten functions of both trees are well-behaved (`pe_full`).  Both are instances of
  one induction over the prefix tree (`pe_core`) under the side condition `PeSide`: either set of hypotheses.

  The induction unfolds `prefix_errors` at each constructor and hands the node to the lemma of its group of kinds
  (`pe_none_node`, `pe_seq_node`, `pe_dict_node`, `pe_custom_node`).  Each reads the other side through
  `STree.isOk_upTo_node`, where what a record accepts (`Matches`) is said in the vocabulary of `prefix_errors` — exact
  type, `seqKids`, `dictItems?` — by `SeqKind.matches_iff`, `matchDict_eq_ok`, `matchCustom_eq_ok`.
-/
import OptreeModel.Model.PrefixErrors
import OptreeModel.Lemmas.EncUpTo
import OptreeModel.Lemmas.ShapeOf
namespace Optree

theorem seqErrs_nil : ∀ rs : List (Except Err PErrs), seqErrs rs = .ok [] ↔ ∀ r ∈ rs, r = .ok []
  | [] => by simp [seqErrs]
  | .error e :: rest => by simp [seqErrs]
  | .ok a :: rest => by
      simp only [seqErrs, List.mem_cons, forall_eq_or_imp, Except.ok.injEq, ← seqErrs_nil rest]
      cases seqErrs rest <;> simp

mutual
def PyObj.noCustom (cfg : Cfg) : PyObj → Bool
  | .leaf _ _ | .none => true
  | .tuple xs | .list xs | .deque _ xs => PyObj.noCustomList cfg xs
  | .ntuple cls xs => (cfg.reg.lookup cfg.ns 1 cls).isNone && PyObj.noCustomList cfg xs
  | .sseq cls xs => (cfg.reg.lookup cfg.ns 2 cls).isNone && PyObj.noCustomList cfg xs
  | .user cls _ _ _ => (cfg.reg.lookup cfg.ns 0 cls).isNone
  | .dict kvs | .odict kvs | .ddict _ kvs => PyObj.noCustomKVs cfg kvs
def PyObj.noCustomList (cfg : Cfg) : List PyObj → Bool
  | [] => true
  | x :: xs => x.noCustom cfg && PyObj.noCustomList cfg xs
def PyObj.noCustomKVs (cfg : Cfg) : List (Key × PyObj) → Bool
  | [] => true
  | (_, x) :: xs => x.noCustom cfg && PyObj.noCustomKVs cfg xs
end

mutual
/-- every registered-class instance in the tree has a well-behaved flatten function -/
def PyObj.tame : PyObj → Bool
  | .user _ _ q xs => q == .ok && PyObj.tameList xs
  | .tuple xs | .list xs | .deque _ xs | .ntuple _ xs | .sseq _ xs => PyObj.tameList xs
  | .dict kvs | .odict kvs | .ddict _ kvs => PyObj.tameKVs kvs
  | _ => true
def PyObj.tameList : List PyObj → Bool
  | [] => true
  | x :: xs => x.tame && PyObj.tameList xs
def PyObj.tameKVs : List (Key × PyObj) → Bool
  | [] => true
  | (_, x) :: xs => x.tame && PyObj.tameKVs xs
end

theorem PyObj.noCustomList_mem {cfg : Cfg} {xs : List PyObj} :
    PyObj.noCustomList cfg xs = true → ∀ x ∈ xs, x.noCustom cfg = true :=
  (all_rec_iff rfl (fun _ _ => rfl) _).mp

theorem PyObj.noCustomKVs_mem {cfg : Cfg} {kvs : List (Key × PyObj)} :
    PyObj.noCustomKVs cfg kvs = true → ∀ q ∈ kvs, q.2.noCustom cfg = true :=
  (all_rec_iff (g := fun q : Key × PyObj => q.2.noCustom cfg) rfl (fun _ _ => rfl) _).mp

theorem PyObj.tameList_mem {xs : List PyObj} : PyObj.tameList xs = true → ∀ x ∈ xs, x.tame = true :=
  (all_rec_iff rfl (fun _ _ => rfl) _).mp

theorem PyObj.tameKVs_mem {kvs : List (Key × PyObj)} : PyObj.tameKVs kvs = true → ∀ q ∈ kvs, q.2.tame = true :=
  (all_rec_iff (g := fun q : Key × PyObj => q.2.tame) rfl (fun _ _ => rfl) _).mp

theorem tame_seqKids {t : PyObj} (ht : t.tame = true) : PyObj.tameList (t.seqKids.getD []) = true := by
  cases t
  case user => exact (Bool.and_eq_true_iff.mp ht).2
  case tuple | list | deque | ntuple | sseq => exact ht
  all_goals rfl

theorem tame_dictItems {t : PyObj} (ht : t.tame = true) : PyObj.tameKVs ((dictItems? t).getD []) = true := by
  cases t
  case dict | odict | ddict => exact ht
  all_goals rfl

theorem tame_parts {reg : Registry} {ns : String} {r : Reg} {t : PyObj} (ht : t.tame = true)
    (hl : lookupForObject reg ns t = some r) : ∃ md ys, customParts t = (md, .ok, ys) ∧ t.seqKids = some ys := by
  obtain ⟨c, md, q, xs, rfl, -⟩ | ⟨c, xs, rfl, -⟩ | ⟨c, xs, rfl, -⟩ := lookupForObject_eq_some hl
  · obtain rfl := beq_iff_eq.mp (Bool.and_eq_true_iff.mp ht).1
    exact ⟨_, _, rfl, rfl⟩
  · exact ⟨_, _, rfl, rfl⟩
  · exact ⟨_, _, rfl, rfl⟩

/-- what the induction needs to know of a prefix tree and the full tree it is matched against: the prefix tree has no
registered custom node (then nothing is asked of the full tree), or the registry is consistent and every
registered-class instance on either side has a well-behaved flatten function -/
def PeSide (cfg : Cfg) (p t : PyObj) : Prop :=
  p.noCustom cfg = true ∨ (cfg.reg.OK ∧ p.tame = true ∧ t.tame = true)

theorem PeSide.kids {cfg : Cfg} {p t : PyObj} {xs ys : List PyObj} (h : PeSide cfg p t)
    (hn : p.noCustom cfg = true → PyObj.noCustomList cfg xs = true) (hp : p.tame = true → PyObj.tameList xs = true)
    (ht : t.tame = true → PyObj.tameList ys = true) : ∀ x ∈ xs, ∀ y ∈ ys, PeSide cfg x y :=
  fun x hx y hy => h.imp (fun h => PyObj.noCustomList_mem (hn h) x hx)
    fun ⟨hr, h1, h2⟩ => ⟨hr, PyObj.tameList_mem (hp h1) x hx, PyObj.tameList_mem (ht h2) y hy⟩

theorem PeSide.items {cfg : Cfg} {p t : PyObj} {kvs kvt : List (Key × PyObj)} (h : PeSide cfg p t)
    (hn : p.noCustom cfg = true → PyObj.noCustomKVs cfg kvs = true) (hp : p.tame = true → PyObj.tameKVs kvs = true)
    (ht : t.tame = true → PyObj.tameKVs kvt = true) :
    ∀ q ∈ kvs, ∀ k y, lookupKey k kvt = some y → PeSide cfg q.2 y :=
  fun q hq _ _ hl => h.imp (fun h => PyObj.noCustomKVs_mem (hn h) q hq)
    fun ⟨hr, h1, h2⟩ => ⟨hr, PyObj.tameKVs_mem (hp h1) q hq,
      PyObj.tameKVs_mem (ht h2) _ (lookupKey_mem hl)⟩

section
variable (cfg : Cfg) (s : Bool)

theorem pe_list (xs ys : List PyObj)
    (ih : ∀ x ∈ xs, ∀ (path : List Key) (t : PyObj), PeSide cfg x t →
      (prefixErrorsGo cfg s path x t = .ok [] ↔ isOk (STree.upTo cfg.reg cfg.noneIsLeaf cfg.ns (shapeOf cfg s x) t)))
    (hs : ∀ x ∈ xs, ∀ y ∈ ys, PeSide cfg x y)
    (path es : List Key) (he : es.length = xs.length) (hy : ys.length = xs.length) :
    seqErrs (prefixErrorsList cfg s path es xs ys) = .ok [] ↔
      isOk (STree.upToL cfg.reg cfg.noneIsLeaf cfg.ns (xs.map (shapeOf cfg s)) ys) := by
  induction xs generalizing es ys with
  | nil => simp [prefixErrorsList, seqErrs, STree.upToL, isOk]
  | cons x xs ihx =>
    match es, ys, he, hy with
    | e :: es, y :: ys, he, hy =>
      have h2 := ihx ys (fun x' hx' => ih x' (List.mem_cons_of_mem _ hx'))
        (fun x' hx' y' hy' => hs x' (List.mem_cons_of_mem _ hx') y' (List.mem_cons_of_mem _ hy')) es
        (Nat.succ.inj he) (Nat.succ.inj hy)
      rw [seqErrs_nil] at h2
      simp only [prefixErrorsList, List.map_cons, STree.isOk_upToL_cons, seqErrs_nil, List.mem_cons, forall_eq_or_imp,
        ih x List.mem_cons_self _ y (hs x List.mem_cons_self y List.mem_cons_self), h2]

/-- for every item in `L` the key is found in `kvt` and the sub-trees agree: what both sides compute under a dict -/
theorem pe_items (path : List Key) (kvt : List (Key × PyObj)) : ∀ L : List (Key × PyObj),
    (∀ q ∈ L, ∀ y, lookupKey q.1 kvt = some y → ∀ path : List Key,
      prefixErrorsGo cfg s path q.2 y = .ok [] ↔
        isOk (STree.upTo cfg.reg cfg.noneIsLeaf cfg.ns (shapeOf cfg s q.2) y)) →
    (seqErrs ((prefixErrorsKVs cfg s path L kvt).map (·.2)) = .ok [] ↔
      ∃ ys, (L.map (·.1)).mapM (fun k => lookupKey k kvt) = some ys ∧
        isOk (STree.upToL cfg.reg cfg.noneIsLeaf cfg.ns ((L.map (·.2)).map (shapeOf cfg s)) ys))
  | [], _ => by simp [prefixErrorsKVs, seqErrs, STree.upToL, isOk]
  | (k, x) :: L, ih => by
      have ihL := pe_items path kvt L fun q hq => ih q (List.mem_cons_of_mem _ hq)
      have ihx := ih (k, x) List.mem_cons_self
      rw [seqErrs_nil] at ihL ⊢
      simp only [prefixErrorsKVs, List.map_cons, List.mem_cons, forall_eq_or_imp, ihL, List.mapM_cons]
      cases hl : lookupKey k kvt with
      | none => simp
      | some y =>
        cases (L.map (·.1)).mapM (fun k => lookupKey k kvt) <;> simp [STree.isOk_upToL_cons, ihx y hl]

theorem prefixErrorsKVs_eq (path : List Key) (kvt : List (Key × PyObj)) :
    ∀ kvs : List (Key × PyObj), prefixErrorsKVs cfg s path kvs kvt =
      kvs.map fun q => (q.1, match lookupKey q.1 kvt with
        | Option.none => .error .key
        | some y => prefixErrorsGo cfg s (path ++ [q.1]) q.2 y)
  | [] => by simp [prefixErrorsKVs]
  | (k, x) :: rest => by rw [prefixErrorsKVs, prefixErrorsKVs_eq path kvt rest]; rfl

theorem dictOrder_prefixErrorsKVs (od : Bool) (path : List Key) (kvs kvt : List (Key × PyObj)) :
    dictOrder od s (prefixErrorsKVs cfg s path kvs kvt) = prefixErrorsKVs cfg s path (dictOrder od s kvs) kvt := by
  rw [prefixErrorsKVs_eq, prefixErrorsKVs_eq]
  exact dictOrder_map od s _ (fun _ => by rfl) kvs

theorem pe_dict (od : Bool) (path : List Key) (kvs kvt : List (Key × PyObj))
    (ih : ∀ c ∈ (dictOrder od s kvs).map (·.2), ∀ (path : List Key) (t : PyObj), PeSide cfg c t →
      (prefixErrorsGo cfg s path c t = .ok [] ↔ isOk (STree.upTo cfg.reg cfg.noneIsLeaf cfg.ns (shapeOf cfg s c) t)))
    (hs : ∀ q ∈ kvs, ∀ k y, lookupKey k kvt = some y → PeSide cfg q.2 y) :
    seqErrs ((dictOrder od s (prefixErrorsKVs cfg s path kvs kvt)).map (·.2)) = .ok [] ↔
      ∃ ys, ((dictOrder od s kvs).map (·.1)).mapM (fun k => lookupKey k kvt) = some ys ∧
        isOk (STree.upToL cfg.reg cfg.noneIsLeaf cfg.ns (((dictOrder od s kvs).map (·.2)).map (shapeOf cfg s)) ys) := by
  rw [dictOrder_prefixErrorsKVs]
  exact pe_items cfg s path kvt _ fun q hq y hl path =>
    ih q.2 (List.mem_map_of_mem hq) path y (hs q ((dictOrder_perm od s kvs).subset hq) q.1 y hl)
end

/-- the sequence-like built-in kinds: kind and data of the node, exact type of the objects it matches -/
inductive SeqKind : Kind → NodeData → PyType → Prop
  | tuple : SeqKind .tuple .none .tuple
  | list : SeqKind .list .none .list
  | deque (m : Option Nat) : SeqKind .deque (.maxlen m) .deque
  | nt (cls : TypeId) : SeqKind .namedtuple (.cls cls) (.nt cls)
  | ss (cls : TypeId) : SeqKind .structseq (.cls cls) (.ss cls)

/-- the dict kinds: kind and data of a node with keys `ks`, exact type of the prefix object -/
inductive DictKind (ks : List Key) : Kind → NodeData → PyType → Prop
  | dict : DictKind ks .dict (.keys ks) .dict
  | odict : DictKind ks .ordereddict (.keys ks) .odict
  | ddict (f : Option Nat) : DictKind ks .defaultdict (.ddict f ks) .ddict

theorem SeqKind.matches_iff {reg : Registry} {nil : Bool} {ns : String} {kind : Kind} {data : NodeData} {pt : PyType}
    (hK : SeqKind kind data pt) {n : Nat} {t : PyObj} {xs : List PyObj} :
    Matches reg nil ns (plainInfo kind data Option.none) n t xs ↔
      pt = t.pyType ∧ t.seqKids = some xs ∧ xs.length = n := by
  constructor
  · intro h
    cases h
    case tuple hk hl | list hk hl | deque hk hl => cases hk; cases hK; exact ⟨rfl, rfl, hl⟩
    case ntuple hk hd hl | sseq hk hd hl => cases hk; cases hK; cases hd; exact ⟨rfl, rfl, hl⟩
    case none hk _ => cases hk; cases hK
    case custom hk _ _ _ _ _ _ => cases hk; cases hK
    case dict hd _ _ _ => cases hK <;> cases hd
  · rintro ⟨hpt, hk, hl⟩
    cases t <;> cases hk <;> cases hK <;> cases hpt
    · exact .tuple _ rfl hl
    · exact .list _ rfl hl
    · exact .deque _ _ rfl hl
    · exact .ntuple _ _ rfl rfl hl
    · exact .sseq _ _ rfl rfl hl

section
variable (reg : Registry) (nil : Bool) (ns : String)

/-- `R` is what `prefix_errors` reports for the children -/
theorem pe_seq_node {kind : Kind} {data : NodeData} {pt : PyType} (hK : SeqKind kind data pt) (path : List Key)
    (t : PyObj) (n : Nat) (cs : List STree) (hn : cs.length = n) (R : Except Err PErrs)
    (hl : (t.seqKids.getD []).length = n → (R = .ok [] ↔ isOk (STree.upToL reg nil ns cs (t.seqKids.getD [])))) :
    ((if (pt != t.pyType && !(pt.isStdDict && t.pyType.isStdDict)) = true then
        (Except.ok [(PErr.types, path)] : Except Err PErrs)
      else match t.seqKids with
        | Option.none => Except.error Err.internal
        | some ys => if (n != ys.length) = true then Except.ok [(PErr.arity, path)] else R) = .ok [] ↔
      isOk (STree.upTo reg nil ns (.node (plainInfo kind data Option.none) cs) t)) := by
  have hstd : pt.isStdDict = false := by cases hK <;> rfl
  subst hn
  simp only [STree.isOk_upTo_node, hK.matches_iff, and_assoc, exists_and_left, hstd, Bool.false_and, Bool.not_false,
    Bool.and_true]
  by_cases heq : pt = t.pyType
  · cases hk : t.seqKids with
    | none => simp [heq]
    | some ys =>
      simp only [hk, Option.getD_some] at hl
      by_cases hlen : cs.length = ys.length
      · simp [heq, hlen, hl hlen.symm]
      · simp [heq, hlen, Ne.symm hlen]
  · simp [heq]

theorem isStdDict_dictItems (t : PyObj) : t.pyType.isStdDict = (dictItems? t).isSome := by cases t <;> rfl

/-- a dict-kind record accepts any of the three dict types with the same key set; `R` is what `prefix_errors` reports
for the values, which `flatten_up_to` matches in the order of the node's keys -/
theorem pe_dict_node {ks : List Key} {kind : Kind} {data : NodeData} {pt : PyType} (hK : DictKind ks kind data pt)
    (path : List Key) (t : PyObj) (okeys : Option (List Key)) (cs : List STree) (R : Except Err PErrs)
    (hR : R = .ok [] ↔ ∃ ys, ks.mapM (fun k => lookupKey k ((dictItems? t).getD [])) = some ys ∧
      isOk (STree.upToL reg nil ns cs ys)) :
    ((if (pt != t.pyType && !(pt.isStdDict && t.pyType.isStdDict)) = true then
        (Except.ok [(PErr.types, path)] : Except Err PErrs)
      else match dictItems? t with
        | Option.none => Except.error Err.internal
        | some kvt => if (!keySetEq ks (kvt.map (·.1))) = true then Except.ok [(PErr.keys, path)] else R) = .ok [] ↔
      isOk (STree.upTo reg nil ns (.node (plainInfo kind data okeys) cs) t)) := by
  obtain ⟨hd, hstd, hks⟩ : kind.isDict = true ∧ pt.isStdDict = true ∧ (plainInfo kind data okeys).keys = ks := by
    cases hK <;> exact ⟨rfl, rfl, rfl⟩
  simp only [STree.isOk_upTo_node, ← matchNode_eq_ok, matchNode_dict (i := plainInfo kind data okeys) hd,
    matchDict_eq_ok, hks, isStdDict_dictItems t, hstd, Bool.true_and]
  cases hk : dictItems? t with
  | none =>
    have hne : pt ≠ t.pyType := fun h => by
      rw [h, isStdDict_dictItems, hk] at hstd
      cases hstd
    simp [hne]
  | some kvt =>
    simp only [hk, Option.getD_some] at hR
    by_cases hks : keySetEq ks (kvt.map (·.1)) = true <;> simp [hks, hR]

theorem pe_none_node (path : List Key) (t : PyObj) :
    ((if (PyType.noneT != t.pyType && !(PyType.noneT.isStdDict && t.pyType.isStdDict)) = true then
        (Except.ok [(PErr.types, path)] : Except Err PErrs)
      else Except.ok []) = .ok [] ↔
      isOk (STree.upTo reg false ns (.node (plainInfo .none .none Option.none) []) t)) := by
  rw [STree.upTo_node, matchNode_none rfl]
  cases t <;> simp [isOk, PyObj.pyType, PyType.isStdDict, STree.upToL, Except.bind]
end

theorem oneLevelCustom_tame (reg : Reg) {x : PyObj} {md : Option Key} {xs : List PyObj}
    (h : customParts x = (md, .ok, xs)) :
    oneLevelCustom reg x = .ok (xs.length, md, (customEntries reg xs.length).getD (intEntries xs.length)) := by
  unfold oneLevelCustom customOut
  rw [h]
  cases hm : reg.mode <;>
    simp [customOutOf, customEntries, hm, entriesFor, namedEntries_length, shiftedEntries_length]

theorem customOut_tame (reg : Reg) {x : PyObj} {md : Option Key} {xs : List PyObj}
    (h : customParts x = (md, .ok, xs)) :
    ((customOut reg x).numOut = 2 ∨ (customOut reg x).numOut = 3) ∧
      (customOut reg x).children = some xs ∧ (customOut reg x).md = md := by
  unfold customOut
  rw [h]
  cases hm : reg.mode <;> simp [customOutOf, hm]

theorem pyType_eq_iff_lookup {reg : Registry} (hreg : reg.OK) {ns : String} {p t : PyObj} {r : Reg}
    (hp : lookupForObject reg ns p = some r) : p.pyType = t.pyType ↔ lookupForObject reg ns t = some r := by
  constructor <;> intro h
  · -- the registration is looked up under the exact type
    have key : ∀ x : PyObj, lookupForObject reg ns x = match x.pyType with
        | .user c => reg.lookup ns 0 c | .nt c => reg.lookup ns 1 c | .ss c => reg.lookup ns 2 c
        | _ => Option.none := fun x => by cases x <;> rfl
    rw [key, ← h, ← key, hp]
  · -- a registration determines the exact type of its instances
    have inv : ∀ x : PyObj, lookupForObject reg ns x = some r → x.pyType =
        if r.clsKind = 0 then .user r.cls else if r.clsKind = 1 then .nt r.cls else .ss r.cls := fun x hx => by
      obtain ⟨c, md, q, xs, rfl, hl⟩ | ⟨c, xs, rfl, hl⟩ | ⟨c, xs, rfl, hl⟩ := lookupForObject_eq_some hx <;>
        obtain ⟨h1, h2⟩ := hreg _ _ _ _ hl <;> simp [PyObj.pyType, h1, h2]
    rw [inv p hp, inv t h]

/-- `rs es` is what `prefix_errors` reports for the children under the entries `es`.  At an instance of a registered
class the side condition can only hold by its second alternative, which is what `pyType_eq_iff_lookup` and
`tame_parts` need. -/
theorem pe_custom_node {cfg : Cfg} {reg : Reg} {p t : PyObj} {md : Option Key} {q : Quirk} {xs : List PyObj}
    (hs : PeSide cfg p t) (hlp : lookupForObject cfg.reg cfg.ns p = some reg) (hpp : customParts p = (md, q, xs))
    (path : List Key) (cs : List STree) (hn : cs.length = xs.length) (rs : List Key → Except Err PErrs)
    (hl : ∀ es, (∀ x ∈ xs, ∀ y ∈ t.seqKids.getD [], PeSide cfg x y) → es.length = xs.length →
      (t.seqKids.getD []).length = xs.length →
      (rs es = .ok [] ↔ isOk (STree.upToL cfg.reg cfg.noneIsLeaf cfg.ns cs (t.seqKids.getD [])))) :
    ((if (p.pyType != t.pyType && !(p.pyType.isStdDict && t.pyType.isStdDict)) = true then
        (Except.ok [(PErr.types, path)] : Except Err PErrs)
      else
        match oneLevelCustom reg p with
        | Except.error e => Except.error e
        | Except.ok (np, mdp, ep) =>
          match oneLevelCustom reg t with
          | Except.error e => Except.error e
          | Except.ok (nt, mdt, _) =>
            if (np != nt) = true then Except.ok [(PErr.arity, path)]
            else
              if (mdp != mdt) = true then Except.ok [(PErr.metadata, path)]
              else rs ep) = .ok [] ↔
      isOk (STree.upTo cfg.reg cfg.noneIsLeaf cfg.ns (.node (customInfo reg md xs.length) cs) t)) := by
  obtain ⟨hnc, hstd⟩ : p.noCustom cfg = false ∧ p.pyType.isStdDict = false := by
    obtain ⟨c, md, q, xs, rfl, hl⟩ | ⟨c, xs, rfl, hl⟩ | ⟨c, xs, rfl, hl⟩ := lookupForObject_eq_some hlp <;>
      simp [PyObj.noCustom, hl] <;> rfl
  obtain ⟨hreg, hpt, htt⟩ := hs.resolve_left (by simp [hnc])
  obtain ⟨_, _, hpp', hkp⟩ := tame_parts hpt hlp
  cases hpp.symm.trans hpp'
  have hxs := hkp ▸ tame_seqKids hpt
  have hty := pyType_eq_iff_lookup hreg hlp (t := t)
  simp only [hstd, Bool.false_and, Bool.not_false, Bool.and_true, STree.isOk_upTo_node,
    ← matchNode_eq_ok, matchNode_custom (i := customInfo reg md xs.length) rfl, matchCustom_eq_ok]
  simp only [customInfo, Option.some.injEq, exists_eq_left', NodeData.md.injEq]
  by_cases heq : p.pyType = t.pyType
  · obtain ⟨mdt, ys, hpt', hk⟩ := tame_parts htt (hty.1 heq)
    obtain ⟨c1, c2, c3⟩ := customOut_tame reg hpt'
    -- same exact type, both flatten functions well-behaved: of `prefix_errors` the arity test, the metadata test and
    -- `rs` are left; of what the record asks, `md = mdt`, as many children, and the match of the children
    simp only [heq, hty.1 heq, bne_self_eq_false, Bool.false_eq_true, if_false, oneLevelCustom_tame reg hpp,
      oneLevelCustom_tame reg hpt', c1, c2, c3, hn, true_and, Option.some.injEq, and_assoc, exists_and_left,
      exists_eq_left']
    have hys := tame_seqKids htt
    simp only [hk, Option.getD_some] at hl hys
    by_cases hlen : xs.length = ys.length
    · by_cases hmd : md = mdt
      · simpa [hlen, hmd] using hl _
          (fun x hx y hy => .inr ⟨hreg, PyObj.tameList_mem hxs x hx, PyObj.tameList_mem hys y hy⟩)
          (customEntries_getD_length _ _) hlen.symm
      · simp [hlen, hmd]
    · by_cases hmd : md = mdt <;> simp [hlen, Ne.symm hlen, hmd]
  · simp [heq, mt hty.2 heq]

theorem pe_core (cfg : Cfg) (s : Bool) (hp : cfg.pred = Option.none) (p : PyObj) :
    ∀ (path : List Key) (t : PyObj), PeSide cfg p t →
      (prefixErrorsGo cfg s path p t = .ok [] ↔ isOk (STree.upTo cfg.reg cfg.noneIsLeaf cfg.ns (shapeOf cfg s p) t)) := by
  induction p using PyObj.view_induct cfg s with | _ p ih
  intro path t hs
  rw [prefixErrorsGo, shapeOf_view, evalPred_none cfg hp]
  -- the three local functions of `prefixErrorsGo` stay folded while its `match` is swept; the node lemmas state them
  extract_lets seqCase customCase dictCase
  cases p <;> simp only [getKind, PyObj.view, View.kids, beq_iff_eq, reduceCtorEq, if_false] at ih ⊢
  case leaf => exact iff_of_true rfl ⟨_, rfl⟩
  case none =>
    cases hn : cfg.noneIsLeaf
    · exact pe_none_node _ _ path t
    · exact iff_of_true rfl ⟨_, rfl⟩
  case tuple xs | list xs | deque _ xs =>
    exact pe_seq_node _ _ _ (by constructor) path t _ _ (List.length_map _) _ <|
      pe_list cfg s xs _ ih (hs.kids id id tame_seqKids) path _ (by simp [intEntries])
  case dict kvs | odict kvs | ddict _ kvs =>
    -- under `odict`, `dictOrder true s kvs` unfolds to `kvs`
    exact pe_dict_node _ _ _ (by constructor) path t _ _ _ <|
      pe_dict cfg s _ path kvs _ ih (hs.items id id tame_dictItems)
  case ntuple cls xs | sseq cls xs =>
    -- registered or not
    split <;> rename_i hlk <;> simp only [hlk, reduceCtorEq, if_false] at ih ⊢
    · exact pe_custom_node hs hlk rfl path _ (List.length_map _) _ fun es hside => pe_list cfg s xs _ ih hside path es
    · exact pe_seq_node _ _ _ (by constructor) path t _ _ (List.length_map _) _ <|
        pe_list cfg s xs _ ih (hs.kids (fun h => (Bool.and_eq_true_iff.mp h).2) id tame_seqKids) path _
          (by simp [intEntries])
  case user cls md q xs =>
    split <;> rename_i hlk <;> simp only [hlk, reduceCtorEq, if_false] at ih ⊢
    · exact pe_custom_node hs hlk rfl path _ (List.length_map _) _ fun es hside => pe_list cfg s xs _ ih hside path es
    · exact iff_of_true rfl ⟨_, rfl⟩

theorem pe_agree (cfg : Cfg) (s : Bool) (hp : cfg.pred = Option.none) :
    ∀ p : PyObj, p.noCustom cfg = true → ∀ (path : List Key) (t : PyObj),
      prefixErrorsGo cfg s path p t = .ok [] ↔ isOk (STree.upTo cfg.reg cfg.noneIsLeaf cfg.ns (shapeOf cfg s p) t) :=
  fun p hf path t => pe_core cfg s hp p path t (.inl hf)

theorem pe_full (cfg : Cfg) (s : Bool) (hp : cfg.pred = Option.none) (hreg : cfg.reg.OK) :
    ∀ p : PyObj, p.tame = true → ∀ (path : List Key) (t : PyObj), t.tame = true →
      (prefixErrorsGo cfg s path p t = .ok [] ↔ isOk (STree.upTo cfg.reg cfg.noneIsLeaf cfg.ns (shapeOf cfg s p) t)) :=
  fun p hf path t htt => pe_core cfg s hp p path t (.inr ⟨hreg, hf, htt⟩)

end Optree
