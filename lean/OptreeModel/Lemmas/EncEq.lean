/-
  `PyTreeSpec::EqualTo` on encodings is structural equality of shapes up to what `==` ignores
  (custom path entries, the remembered insertion order of dict keys) — refinement, for C06.  That equality,
  `STree.eqB`, is equality after erasing what `==` ignores (`STree.eqPart`, `STree.eqB_iff`); its laws are in
  C06.lean.  The node loop of `EqualTo`, `nodesEq`, answers `True` exactly when the two arrays agree record by
  record on `Node.eqKey`, and `hashInput` reads no more of a record than that.
-/
import OptreeModel.Model.Compare
import OptreeModel.Lemmas.Control
import OptreeModel.Lemmas.Enc

namespace Optree

/-! ### the node loop -/

/-- the part of a node that `EqualTo` compares -/
def Node.eqKey (n : Node) : Kind × Nat × NodeData × Option Reg × Nat × Nat :=
  (n.kind, n.arity, n.data, n.custom, n.numLeaves, n.numNodes)

def nodeEqv (x y : Node) : Bool :=
  x.kind == y.kind && x.arity == y.arity && x.data.isSome == y.data.isSome && x.custom == y.custom &&
    (!x.data.isSome || x.data == y.data) && x.numLeaves == y.numLeaves && x.numNodes == y.numNodes

def allEqv : List Node → List Node → Bool
  | [], [] => true
  | x :: xs, y :: ys => nodeEqv x y && allEqv xs ys
  | _, _ => false

theorem nodesEq_cons (x y : Node) (xs ys : List Node) :
    nodesEq (x :: xs) (y :: ys) = .ok true ↔ nodeEqv x y = true ∧ nodesEq xs ys = .ok true := by
  simp only [nodesEq, ite_ok_false_eq_ok_true, ite_error_eq_ok, nodeEqv, Bool.and_eq_true, Bool.or_eq_true,
    bne_iff_ne, ne_eq, not_or, Decidable.not_not, beq_iff_eq, not_and, Bool.not_eq_true', and_assoc,
    Decidable.imp_iff_not_or, Bool.not_eq_true]

theorem nodesEq_true_iff : ∀ xs ys : List Node, nodesEq xs ys = .ok true ↔ allEqv xs ys = true
  | [], [] => by simp [nodesEq, allEqv]
  | [], _ :: _ => by simp [nodesEq, allEqv]
  | _ :: _, [] => by simp [nodesEq, allEqv]
  | x :: xs, y :: ys => by rw [nodesEq_cons, nodesEq_true_iff xs ys, allEqv, Bool.and_eq_true]

theorem NodeData.isSome_eq_false {d : NodeData} : d.isSome = false ↔ d = .none := by
  cases d <;> simp [NodeData.isSome]

/-- the two payload tests of `EqualTo` (both present or both absent; equal when present) amount to equality, since
payloads that are both absent are equal -/
theorem NodeData.tests_iff (d d' : NodeData) : d.isSome = d'.isSome ∧ (d.isSome = false ∨ d = d') ↔ d = d' := by
  constructor
  · rintro ⟨hs, hd | hd⟩
    · rw [NodeData.isSome_eq_false.mp hd, NodeData.isSome_eq_false.mp (hs ▸ hd : d'.isSome = false)]
    · exact hd
  · rintro rfl
    exact ⟨rfl, .inr rfl⟩

theorem nodeEqv_iff (x y : Node) : nodeEqv x y = true ↔ x.eqKey = y.eqKey := by
  simp only [nodeEqv, Node.eqKey, Bool.and_eq_true, beq_iff_eq, Prod.mk.injEq, Bool.or_eq_true, Bool.not_eq_true']
  exact ⟨fun ⟨⟨⟨⟨⟨⟨k, a⟩, s⟩, c⟩, d⟩, l⟩, n⟩ => ⟨k, a, (NodeData.tests_iff ..).mp ⟨s, d⟩, c, l, n⟩,
    fun ⟨k, a, e, c, l, n⟩ => have ⟨s, d⟩ := (NodeData.tests_iff ..).mpr e; ⟨⟨⟨⟨⟨⟨k, a⟩, s⟩, c⟩, d⟩, l⟩, n⟩⟩

theorem allEqv_iff : ∀ xs ys : List Node, allEqv xs ys = true ↔ xs.map Node.eqKey = ys.map Node.eqKey
  | [], [] => by simp [allEqv]
  | [], _ :: _ => by simp [allEqv]
  | _ :: _, [] => by simp [allEqv]
  | x :: xs, y :: ys => by
      rw [allEqv, Bool.and_eq_true, nodeEqv_iff, allEqv_iff xs ys, List.map_cons, List.map_cons, List.cons.injEq]

theorem nodesEq_true (xs ys : List Node) (h : nodesEq xs ys = .ok true) :
    xs.map Node.eqKey = ys.map Node.eqKey :=
  (allEqv_iff xs ys).mp ((nodesEq_true_iff xs ys).mp h)

theorem allEqv_reverse (xs ys : List Node) : allEqv xs.reverse ys.reverse = allEqv xs ys := by
  rw [Bool.eq_iff_iff, allEqv_iff, allEqv_iff, List.map_reverse, List.map_reverse, List.reverse_inj]

/-- everything `hashInput` reads of a node -/
theorem Node.eqKey_fields {x y : Node} (h : x.eqKey = y.eqKey) :
    x.kind = y.kind ∧ x.arity = y.arity ∧ x.numLeaves = y.numLeaves ∧ x.numNodes = y.numNodes ∧
      x.hashData = y.hashData := by
  simp only [Node.eqKey, Prod.mk.injEq] at h
  obtain ⟨hk, ha, hd, hc, hl, hn⟩ := h
  exact ⟨hk, ha, hl, hn, by simp only [Node.hashData, Node.keys, hk, hd, hc]⟩

/-! ### tree-level equality as `==` sees it -/

def NInfo.eqv (i j : NInfo) : Bool :=
  i.kind == j.kind && i.data.isSome == j.data.isSome && i.custom == j.custom &&
    (!i.data.isSome || i.data == j.data)

mutual
def STree.eqB : STree → STree → Bool
  | .leaf, .leaf => true
  | .node i cs, .node j ds => i.eqv j && STree.eqL cs ds
  | _, _ => false
def STree.eqL : List STree → List STree → Bool
  | [], [] => true
  | c :: cs, d :: ds => STree.eqB c d && STree.eqL cs ds
  | _, _ => false
end

/-- what `==` reads of a node: custom path entries and the remembered insertion order of dict keys erased -/
def NInfo.eqPart (i : NInfo) : NInfo := { i with entries := Option.none, originalKeys := Option.none }

mutual
def STree.eqPart : STree → STree
  | .leaf => .leaf
  | .node i cs => .node i.eqPart (STree.eqPartL cs)
def STree.eqPartL : List STree → List STree
  | [] => []
  | c :: cs => c.eqPart :: STree.eqPartL cs
end

theorem NInfo.eqv_iff (i j : NInfo) : i.eqv j = true ↔ i.eqPart = j.eqPart := by
  simp only [NInfo.eqv, NInfo.eqPart, Bool.and_eq_true, beq_iff_eq, Bool.or_eq_true, Bool.not_eq_true', NInfo.mk.injEq,
    and_true, true_and]
  exact ⟨fun ⟨⟨⟨k, s⟩, c⟩, d⟩ => ⟨k, (NodeData.tests_iff ..).mp ⟨s, d⟩, c⟩,
    fun ⟨k, e, c⟩ => have ⟨s, d⟩ := (NodeData.tests_iff ..).mpr e; ⟨⟨⟨k, s⟩, c⟩, d⟩⟩

mutual
theorem STree.eqB_iff : ∀ a b : STree, a.eqB b = true ↔ a.eqPart = b.eqPart
  | .leaf, .leaf => ⟨fun _ => rfl, fun _ => rfl⟩
  | .leaf, .node _ _ => ⟨nofun, nofun⟩
  | .node _ _, .leaf => ⟨nofun, nofun⟩
  | .node i cs, .node j ds => by
      show _ ↔ STree.node i.eqPart (STree.eqPartL cs) = STree.node j.eqPart (STree.eqPartL ds)
      rw [STree.eqB, Bool.and_eq_true, NInfo.eqv_iff, STree.eqL_iff cs ds, STree.node.injEq]
theorem STree.eqL_iff : ∀ cs ds : List STree, STree.eqL cs ds = true ↔ STree.eqPartL cs = STree.eqPartL ds
  | [], [] => ⟨fun _ => rfl, fun _ => rfl⟩
  | [], _ :: _ => ⟨nofun, nofun⟩
  | _ :: _, [] => ⟨nofun, nofun⟩
  | c :: cs, d :: ds => by
      show _ ↔ c.eqPart :: STree.eqPartL cs = d.eqPart :: STree.eqPartL ds
      rw [STree.eqL, Bool.and_eq_true, STree.eqB_iff c d, STree.eqL_iff cs ds, List.cons.injEq]
end

mutual
theorem STree.eqPart_counts : ∀ s : STree, s.eqPart.size = s.size ∧ s.eqPart.leaves = s.leaves
  | .leaf => ⟨rfl, rfl⟩
  | .node _ cs => ⟨congrArg (· + 1) (STree.eqPartL_counts cs).1, (STree.eqPartL_counts cs).2.1⟩
theorem STree.eqPartL_counts : ∀ cs : List STree, STree.sizeL (STree.eqPartL cs) = STree.sizeL cs ∧
    STree.leavesL (STree.eqPartL cs) = STree.leavesL cs ∧ (STree.eqPartL cs).length = cs.length
  | [] => ⟨rfl, rfl, rfl⟩
  | c :: cs => by
      simp only [STree.eqPartL, STree.sizeL, STree.leavesL, List.length_cons, (STree.eqPart_counts c).1,
        (STree.eqPart_counts c).2, (STree.eqPartL_counts cs).1, (STree.eqPartL_counts cs).2.1,
        (STree.eqPartL_counts cs).2.2, and_self]
end

theorem STree.eqB_counts (a b : STree) (h : a.eqB b = true) : a.size = b.size ∧ a.leaves = b.leaves := by
  have ha := a.eqPart_counts
  rw [(STree.eqB_iff a b).mp h] at ha
  exact ⟨ha.1.symm.trans b.eqPart_counts.1, ha.2.symm.trans b.eqPart_counts.2⟩

theorem STree.eqL_counts (cs ds : List STree) (h : STree.eqL cs ds = true) :
    STree.sizeL cs = STree.sizeL ds ∧ STree.leavesL cs = STree.leavesL ds ∧ cs.length = ds.length := by
  have hc := STree.eqPartL_counts cs
  have hd := STree.eqPartL_counts ds
  rw [(STree.eqL_iff cs ds).mp h] at hc
  exact ⟨hc.1.symm.trans hd.1, hc.2.1.symm.trans hd.2.1, hc.2.2.symm.trans hd.2.2⟩

/-! ### the walk over the reversed encodings -/

theorem nodeEqv_kind {x y : Node} (h : nodeEqv x y = true) : x.kind = y.kind :=
  (Prod.mk.inj ((nodeEqv_iff x y).mp h)).1

theorem nodeEqv_toNode (i j : NInfo) (a l n a' l' n' : Nat) :
    nodeEqv (i.toNode a l n) (j.toNode a' l' n') = (i.eqv j && (a == a' && (l == l' && n == n'))) := by
  simp only [nodeEqv, NInfo.eqv, NInfo.toNode_kind, NInfo.toNode_arity, NInfo.toNode_data, NInfo.toNode_custom,
    NInfo.toNode_numLeaves, NInfo.toNode_numNodes, Bool.and_assoc]
  rw [Bool.and_left_comm (a == a'), Bool.and_left_comm (a == a'), Bool.and_left_comm (a == a')]

theorem allEqv_cons_ne {x y : Node} {xs ys : List Node} (h : x.kind ≠ y.kind) :
    allEqv (x :: xs) (y :: ys) = false := by
  rw [allEqv, Bool.eq_false_iff.mpr fun e => h (nodeEqv_kind e), Bool.false_and]

mutual
theorem allEqv_renc : ∀ a : STree, a.wf = true → ∀ b : STree, b.wf = true → ∀ xs ys : List Node,
    allEqv (a.renc ++ xs) (b.renc ++ ys) = (a.eqB b && allEqv xs ys)
  | .leaf, _, .leaf, _, xs, ys => rfl
  | .leaf, _, .node j ds, hb, xs, ys => by
      rw [STree.renc_node]; exact allEqv_cons_ne fun h => (STree.wf_node hb).1 h.symm
  | .node i cs, ha, .leaf, _, xs, ys => by
      rw [STree.renc_node]; exact allEqv_cons_ne (STree.wf_node ha).1
  | .node i cs, ha, .node j ds, hb, xs, ys => by
      rw [STree.renc_node, STree.renc_node, List.cons_append, List.cons_append, allEqv, nodeEqv_toNode, STree.eqB]
      by_cases hlen : cs.length = ds.length
      · rw [allEqv_rencL cs (STree.wf_node ha).2.2.2 ds (STree.wf_node hb).2.2.2 hlen xs ys]
        cases he : STree.eqL cs ds
        · simp
        · obtain ⟨h1, h2, -⟩ := STree.eqL_counts cs ds he
          simp [hlen, h1, h2]
      · have he : STree.eqL cs ds = false := Bool.eq_false_iff.mpr fun h => hlen (STree.eqL_counts cs ds h).2.2
        simp [hlen, he]
theorem allEqv_rencL : ∀ cs : List STree, STree.wfL cs = true → ∀ ds : List STree,
    STree.wfL ds = true → cs.length = ds.length → ∀ xs ys : List Node,
    allEqv (STree.rencL cs ++ xs) (STree.rencL ds ++ ys) = (STree.eqL cs ds && allEqv xs ys)
  | [], _, ds, _, h, xs, ys => by
      obtain rfl := List.length_eq_zero_iff.mp h.symm
      rw [STree.rencL_nil, List.nil_append, List.nil_append]
      exact (Bool.true_and _).symm
  | c :: cs, hc, ds, hd, h, xs, ys => by
      obtain ⟨d, ds, rfl⟩ := List.exists_cons_of_length_eq_add_one h.symm
      rw [STree.wfL_cons] at hc hd
      rw [STree.rencL_cons, STree.rencL_cons, List.append_assoc, List.append_assoc,
        allEqv_rencL cs hc.2 ds hd.2 (Nat.succ.inj h), allEqv_renc c hc.1 d hd.1, STree.eqL, Bool.and_left_comm,
        Bool.and_assoc]
end

/-- **`==` on treespecs is `True` exactly for equal shapes** (up to custom path entries and remembered
key insertion order, which `==` ignores), equal `none_is_leaf` and compatible namespaces -/
theorem equalTo_enc_true (a b : STree) (ha : a.wf = true) (hb : b.wf = true) (nil nil' : Bool)
    (ns ns' : String) :
    equalTo (a.spec nil ns) (b.spec nil' ns') = .ok true ↔
      (nil = nil' ∧ nsCompatible ns ns' = true ∧ a.eqB b = true) := by
  have hwalk : allEqv a.enc b.enc = a.eqB b := by
    have := allEqv_renc a ha b hb [] []
    rwa [List.append_nil, List.append_nil, STree.renc, STree.renc, allEqv_reverse, allEqv, Bool.and_true] at this
  unfold equalTo
  simp only [STree.spec_sane, Bool.not_true, Bool.or_self, Bool.false_eq_true, if_false,
    STree.spec_numNodes, STree.spec_numLeaves]
  simp only [STree.spec, STree.enc_length, ite_ok_false_eq_ok_true, nodesEq_true_iff, hwalk, Bool.or_eq_true,
    bne_iff_ne, ne_eq, not_or, Decidable.not_not, Bool.not_eq_true', Bool.not_eq_false]
  exact ⟨fun ⟨⟨_, h1⟩, h2, _, h3⟩ => ⟨h1, h2, h3⟩,
    fun ⟨h1, h2, h3⟩ => ⟨⟨(STree.eqB_counts a b h3).1, h1⟩, h2, STree.eqB_counts a b h3, h3⟩⟩

end Optree
