/-
  `PyTreeSpec::FlattenUpTo` on encodings is a structural recursion over the shape (refinement, for
  C07 / C05): `STree.upTo` matches a tree against a shape node by node and returns the sub-trees that
  sit at the shape's leaves, in leaf order.  At a node it is `matchNode` followed by the children
  (`STree.upTo_node`), and so is the array-level matcher on the reversed encoding (`upTo_go`).
-/
import OptreeModel.Lemmas.Enc
import OptreeModel.Lemmas.MatchNode

namespace Optree

mutual
/-- match `t` against the shape; children are matched last to first (the agenda of the C++ pops the
last child first), which only matters for *which* error is reported -/
def STree.upTo (reg : Registry) (nil : Bool) (ns : String) : STree → PyObj → Except Err (List PyObj)
  | .leaf, t => .ok [t]
  | .node i cs, t =>
      match i.kind with
      | .leaf => .error .internal
      | .none =>
          if nil then .error .internal
          else match t with
            | .none => STree.upToL reg nil ns cs []
            | _ => .error .value
      | .tuple =>
          match t with
          | .tuple xs => if xs.length != cs.length then .error .value else STree.upToL reg nil ns cs xs
          | _ => .error .value
      | .list =>
          match t with
          | .list xs => if xs.length != cs.length then .error .value else STree.upToL reg nil ns cs xs
          | _ => .error .value
      | .dict | .ordereddict | .defaultdict =>
          match dictItems? t with
          | Option.none => .error .value
          | some kvs =>
              if !keySetEq i.keys (kvs.map (·.1)) then .error .value
              else
                match i.keys.mapM (fun k => lookupKey k kvs) with
                | Option.none => .error .key
                | some xs => STree.upToL reg nil ns cs xs
      | .namedtuple =>
          match t with
          | .ntuple cls xs =>
              if xs.length != cs.length then .error .value
              else if i.data != .cls cls then .error .value
              else STree.upToL reg nil ns cs xs
          | _ => .error .value
      | .deque =>
          match t with
          | .deque _ xs => if xs.length != cs.length then .error .value else STree.upToL reg nil ns cs xs
          | _ => .error .value
      | .structseq =>
          match t with
          | .sseq cls xs =>
              if xs.length != cs.length then .error .value
              else if i.data != .cls cls then .error .value
              else STree.upToL reg nil ns cs xs
          | _ => .error .value
      | .custom =>
          match i.custom with
          | Option.none => .error .internal
          | some nreg =>
            if lookupForObject reg ns t != some nreg then .error .value
            else
              let co := customOut nreg t
              if co.numOut != 2 && co.numOut != 3 then .error .runtime
              else if i.data != .md co.md then .error .value
              else match co.children with
                | Option.none => .error .type_
                | some xs => if xs.length != cs.length then .error .value else STree.upToL reg nil ns cs xs
def STree.upToL (reg : Registry) (nil : Bool) (ns : String) :
    List STree → List PyObj → Except Err (List PyObj)
  | [], _ => .ok []
  | c :: cs, x :: xs =>
      match STree.upToL reg nil ns cs xs with
      | .error e => .error e
      | .ok b =>
          match STree.upTo reg nil ns c x with
          | .error e => .error e
          | .ok a => .ok (a ++ b)
  | _ :: _, [] => .error .internal
end

theorem STree.upTo_leaf (reg : Registry) (nil : Bool) (ns : String) (t : PyObj) :
    STree.leaf.upTo reg nil ns t = .ok [t] := rfl

theorem STree.upTo_node (reg : Registry) (nil : Bool) (ns : String) (i : NInfo) (cs : List STree) (t : PyObj) :
    (STree.node i cs).upTo reg nil ns t =
      (matchNode reg nil ns i cs.length t).bind (STree.upToL reg nil ns cs) := by
  rw [← matchNodeK_eq]
  unfold STree.upTo matchNodeK
  cases i.kind <;> rfl

theorem STree.upToL_cons_ok {reg : Registry} {nil : Bool} {ns : String} {c : STree} {cs : List STree} {x : PyObj}
    {xs ls : List PyObj} :
    STree.upToL reg nil ns (c :: cs) (x :: xs) = .ok ls ↔
      ∃ a b, STree.upTo reg nil ns c x = .ok a ∧ STree.upToL reg nil ns cs xs = .ok b ∧ a ++ b = ls := by
  rw [STree.upToL]
  cases STree.upToL reg nil ns cs xs <;> cases STree.upTo reg nil ns c x <;> simp

theorem STree.okB_upToL_cons (reg : Registry) (nil : Bool) (ns : String) (c : STree) (cs : List STree) (x : PyObj)
    (xs : List PyObj) :
    okB (STree.upToL reg nil ns (c :: cs) (x :: xs)) =
      (okB (STree.upTo reg nil ns c x) && okB (STree.upToL reg nil ns cs xs)) := by
  rw [STree.upToL]
  cases STree.upToL reg nil ns cs xs <;> cases STree.upTo reg nil ns c x <;> rfl

theorem STree.isOk_upToL_cons {reg : Registry} {nil : Bool} {ns : String} {c : STree} {cs : List STree} {x : PyObj}
    {xs : List PyObj} :
    isOk (STree.upToL reg nil ns (c :: cs) (x :: xs)) ↔
      isOk (STree.upTo reg nil ns c x) ∧ isOk (STree.upToL reg nil ns cs xs) := by
  simp only [← okB_eq_true, STree.okB_upToL_cons, Bool.and_eq_true]

theorem STree.isOk_upTo_node {reg : Registry} {nil : Bool} {ns : String} {i : NInfo} {cs : List STree} {t : PyObj} :
    isOk ((STree.node i cs).upTo reg nil ns t) ↔
      ∃ xs, Matches reg nil ns i cs.length t xs ∧ isOk (STree.upToL reg nil ns cs xs) := by
  simp only [isOk, STree.upTo_node, Except.bind_eq_ok, matchNode_eq_ok]
  exact ⟨fun ⟨ls, xs, h, hl⟩ => ⟨xs, h, ls, hl⟩, fun ⟨xs, h, ls, hl⟩ => ⟨ls, xs, h, hl⟩⟩

def leafCount (nodes : List Node) : Nat := (nodes.filter fun n => n.kind == .leaf).length

theorem leafCount_append (xs ys : List Node) : leafCount (xs ++ ys) = leafCount xs + leafCount ys := by
  simp [leafCount]

theorem leafCount_reverse (xs : List Node) : leafCount xs.reverse = leafCount xs := by
  simp [leafCount, List.filter_reverse]

mutual
theorem STree.leafCount_enc : ∀ s : STree, s.wf = true → leafCount s.enc = s.leaves
  | .leaf, _ => by simp [leafCount, STree.enc, STree.leaves, Node.leaf]
  | .node i cs, h => by
      obtain ⟨hk, _, _, hw⟩ := STree.wf_node h
      have hk' : (i.kind == Kind.leaf) = false := by simp [hk]
      simp only [STree.enc, leafCount_append, STree.leafCount_encL cs hw, STree.leaves]
      simp [leafCount, NInfo.toNode, hk']
theorem STree.leafCount_encL : ∀ cs : List STree, STree.wfL cs = true →
    leafCount (STree.encL cs) = STree.leavesL cs
  | [], _ => by simp [leafCount, STree.encL, STree.leavesL]
  | c :: cs, h => by
      rw [STree.wfL_cons] at h
      simp [STree.encL, leafCount_append, STree.leavesL, STree.leafCount_enc c h.1,
        STree.leafCount_encL cs h.2]
end

theorem STree.leafCount_renc (s : STree) (h : s.wf = true) : leafCount s.renc = s.leaves := by
  rw [STree.renc, leafCount_reverse, STree.leafCount_enc s h]

theorem STree.leafCount_rencL (cs : List STree) (h : STree.wfL cs = true) :
    leafCount (STree.rencL cs) = STree.leavesL cs := by
  rw [STree.rencL, leafCount_reverse, STree.leafCount_encL cs h]

mutual
theorem STree.upTo_length (reg : Registry) (nil : Bool) (ns : String) :
    ∀ (a : STree) (t : PyObj) (ls : List PyObj), a.upTo reg nil ns t = .ok ls → ls.length = a.leaves
  | .leaf, t, ls, h => by cases h; rfl
  | .node i cs, t, ls, h => by
      rw [STree.upTo_node, Except.bind_eq_ok] at h
      obtain ⟨xs, -, h⟩ := h
      exact STree.upToL_length reg nil ns cs xs ls h
theorem STree.upToL_length (reg : Registry) (nil : Bool) (ns : String) :
    ∀ (cs : List STree) (xs : List PyObj) (ls : List PyObj), STree.upToL reg nil ns cs xs = .ok ls →
      ls.length = STree.leavesL cs
  | [], _, ls, h => by simp [STree.upToL] at h; subst h; rfl
  | c :: cs, x :: xs, ls, h => by
      obtain ⟨a, b, ha, hb, rfl⟩ := STree.upToL_cons_ok.mp h
      simp [STree.leavesL, STree.upTo_length reg nil ns c x a ha, STree.upToL_length reg nil ns cs xs b hb]
  | _ :: _, [], ls, h => by simp [STree.upToL] at h
end

def UpToL (reg : Registry) (nil : Bool) (ns : String) (N : Nat) (cs : List STree) : Prop :=
  ∀ (xs : List PyObj), xs.length = cs.length → ∀ (nodes : List Node) (agenda acc : List PyObj),
    acc.length + STree.leavesL cs + leafCount nodes ≤ N →
    flattenUpToGo reg nil ns N (STree.rencL cs ++ nodes) (xs.reverse ++ agenda) acc =
      match STree.upToL reg nil ns cs xs with
      | .error e => .error e
      | .ok ls => flattenUpToGo reg nil ns N nodes agenda (ls ++ acc)

mutual
/-- On the reversed encoding of `a` with `t` on top of the agenda the machine does what `a.upTo` does with `t`, and
goes on with `nodes`.  The bound carries the proof: the machine refuses a leaf record once `N` sub-trees are
collected, so the leaf records still to come (those of `a` and of `nodes`) must fit beside `acc`. -/
theorem upTo_go (reg : Registry) (nil : Bool) (ns : String) (N : Nat) : ∀ a : STree, a.wf = true →
    ∀ (t : PyObj) (nodes : List Node) (agenda acc : List PyObj),
      acc.length + a.leaves + leafCount nodes ≤ N →
      flattenUpToGo reg nil ns N (a.renc ++ nodes) (t :: agenda) acc =
        match a.upTo reg nil ns t with
        | .error e => .error e
        | .ok ls => flattenUpToGo reg nil ns N nodes agenda (ls ++ acc)
  | .leaf, _, t, nodes, agenda, acc, hb => by
      have : ¬ (acc.length ≥ N) := by simp only [STree.leaves] at hb; omega
      exact (flattenUpToGo_leaf _ _ _ _ _ _ _ _ rfl).trans (if_neg this)
  | .node i cs, ha, t, nodes, agenda, acc, hb => by
      obtain ⟨hnl, hnone, hdict, hw⟩ := STree.wf_node ha
      rw [STree.renc_node, List.cons_append, flattenUpToGo_node _ _ _ _ _ _ _ _ hnl, STree.upTo_node,
        NInfo.toNode_info, NInfo.toNode_arity]
      cases hm : matchNode reg nil ns i cs.length t with
      | error e => rfl
      | ok xs =>
        exact upToL_go reg nil ns N cs hw xs
          (matchNode_length (fun h => congrArg List.length (hnone h)) (fun h => (hdict h).1) hm) nodes agenda acc hb
theorem upToL_go (reg : Registry) (nil : Bool) (ns : String) (N : Nat) : ∀ cs : List STree,
    STree.wfL cs = true → UpToL reg nil ns N cs
  | [], _ => by
      intro xs hx nodes agenda acc _
      cases List.length_eq_zero_iff.mp hx
      rfl
  | c :: cs, h => by
      obtain ⟨hc, hcs⟩ := Bool.and_eq_true_iff.mp h
      intro xs hx nodes agenda acc hb
      cases xs with
      | nil => cases hx
      | cons x xs =>
        rw [STree.leavesL] at hb
        -- the records of the tail `cs` come first in the reversed array and its objects lie on top of the agenda:
        -- the tail runs first, with `c.renc` and `x` waiting underneath, and then `c` against `x`
        rw [STree.rencL_cons, List.append_assoc, List.reverse_cons, List.append_assoc, List.singleton_append,
          upToL_go reg nil ns N cs hcs xs (Nat.succ.inj hx) (c.renc ++ nodes) (x :: agenda) acc
            (by rw [leafCount_append, STree.leafCount_renc c hc]; omega),
          STree.upToL]
        cases hb' : STree.upToL reg nil ns cs xs with
        | error e => rfl
        | ok b =>
          have hbl := STree.upToL_length reg nil ns cs xs b hb'
          show flattenUpToGo reg nil ns N (c.renc ++ nodes) (x :: agenda) (b ++ acc) = _
          rw [upTo_go reg nil ns N c hc x nodes agenda (b ++ acc) (by rw [List.length_append, hbl]; omega)]
          cases STree.upTo reg nil ns c x with
          | error e => rfl
          | ok a => simp only [List.append_assoc]
end

/-- **`flatten_up_to` on the encoding of a shape is the structural match against that shape** -/
theorem flattenUpTo_enc (reg : Registry) (a : STree) (ha : a.wf = true) (nil : Bool) (ns : String)
    (t : PyObj) : flattenUpTo reg (a.spec nil ns) t = a.upTo reg nil ns t := by
  unfold flattenUpTo
  simp only [STree.spec_sane, Bool.not_true, Bool.false_eq_true, if_false, STree.spec_numLeaves]
  simp only [STree.spec]
  have := upTo_go reg nil ns a.leaves a ha t [] [] [] (by simp [leafCount])
  simp only [List.append_nil, STree.renc] at this
  rw [this]
  cases h : a.upTo reg nil ns t with
  | error e => rfl
  | ok ls =>
    have hl := STree.upTo_length reg nil ns a t ls h
    simp [flattenUpToGo_done, hl]

end Optree
