/-
  The association-list model of Python dicts: the order in which a dict's items are visited (`dictOrder`),
  `MakeNode`'s way of rebuilding a dict key by key (`dictSet`, `dictBuild`), and looking a key up (`lookupKey`).
-/
import OptreeModel.Model.Compare
import OptreeModel.Lemmas.Sort
import OptreeModel.Lemmas.Control

namespace Optree

theorem dictOrder_perm {α : Type} (od sorted : Bool) (items : List (Key × α)) :
    (dictOrder od sorted items).Perm items := by
  unfold dictOrder
  split
  · exact totalOrderSortOn_perm _ _
  · exact List.Perm.refl _

theorem dictOrder_map {α β : Type} (od sorted : Bool) (g : Key × α → Key × β)
    (h : ∀ p, (g p).1 = p.1) (items : List (Key × α)) :
    dictOrder od sorted (items.map g) = (dictOrder od sorted items).map g := by
  unfold dictOrder
  split
  · exact totalOrderSortOn_map (·.1) (·.1) g h items
  · rfl

theorem dictOrder_mapVals {α β : Type} (od sorted : Bool) (f : α → β) (items : List (Key × α)) :
    dictOrder od sorted (items.map fun p => (p.1, f p.2)) =
      (dictOrder od sorted items).map fun p => (p.1, f p.2) :=
  dictOrder_map od sorted (fun p => (p.1, f p.2)) (fun _ => rfl) items

theorem dictOrder_length {α : Type} (od sorted : Bool) (items : List (Key × α)) :
    (dictOrder od sorted items).length = items.length :=
  (dictOrder_perm od sorted items).length_eq

theorem dictOrder_od {α : Type} (s : Bool) (l : List (Key × α)) : dictOrder true s l = l := rfl

theorem mem_dictOrder_vals {α : Type} {od s : Bool} {kvs : List (Key × α)} {c : α}
    (h : c ∈ (dictOrder od s kvs).map (·.2)) : ∃ p ∈ kvs, p.2 = c := by
  obtain ⟨p, hp, rfl⟩ := List.mem_map.mp h
  exact ⟨p, (dictOrder_perm od s kvs).subset hp, rfl⟩

theorem dictSet_keys_of_mem {α : Type} (k : Key) (v : α) (d : List (Key × α))
    (h : k ∈ d.map (·.1)) : (dictSet k v d).map (·.1) = d.map (·.1) := by
  induction d with
  | nil => simp at h
  | cons p rest ih =>
    rw [dictSet]
    split
    · rfl
    · rename_i hk
      rw [List.map_cons, List.mem_cons] at h
      rw [List.map_cons, List.map_cons, ih (h.resolve_left fun e => hk (beq_iff_eq.mpr e.symm))]

theorem dictSet_of_not_mem {α : Type} (k : Key) (v : α) (d : List (Key × α))
    (h : k ∉ d.map (·.1)) : dictSet k v d = d ++ [(k, v)] := by
  induction d with
  | nil => rfl
  | cons p rest ih =>
    rw [List.map_cons, List.mem_cons, not_or] at h
    rw [dictSet, if_neg fun e => h.1 (beq_iff_eq.mp e).symm, ih h.2, List.cons_append]

theorem dictSet_mem_self {α : Type} (k : Key) (v : α) (d : List (Key × α)) :
    (k, v) ∈ dictSet k v d := by
  induction d with
  | nil => simp [dictSet]
  | cons p rest ih =>
    rw [dictSet]
    split
    · rename_i hk; rw [beq_iff_eq.mp hk]; exact List.mem_cons_self
    · exact List.mem_cons_of_mem _ ih

theorem dictSet_mem_other {α : Type} (k : Key) (v : α) (d : List (Key × α)) (k₂ : Key) (v₂ : α)
    (hne : k₂ ≠ k) (h : (k₂, v₂) ∈ d) : (k₂, v₂) ∈ dictSet k v d := by
  induction d with
  | nil => simp at h
  | cons p rest ih =>
    rw [dictSet]
    rcases List.mem_cons.mp h with rfl | h
    · rw [if_neg fun e => hne (beq_iff_eq.mp e)]; exact List.mem_cons_self
    · split
      · exact List.mem_cons_of_mem _ h
      · exact List.mem_cons_of_mem _ (ih h)

theorem dictSetMany_mem_preserved {α : Type} (upd : List (Key × α)) (d : List (Key × α)) (k : Key)
    (v : α) (hnot : k ∉ upd.map (·.1)) (h : (k, v) ∈ d) : (k, v) ∈ dictSetMany d upd := by
  induction upd generalizing d with
  | nil => simpa [dictSetMany] using h
  | cons r rs ih =>
    obtain ⟨k₂, v₂⟩ := r
    unfold dictSetMany
    simp only [List.map_cons, List.mem_cons, not_or] at hnot
    exact ih (dictSet k₂ v₂ d) hnot.2 (dictSet_mem_other k₂ v₂ d k v hnot.1 h)

theorem dictSetMany_fresh {α : Type} (d : List (Key × α)) (kvs : List (Key × α))
    (hnd : (kvs.map (·.1)).Nodup) (hdis : ∀ k ∈ kvs.map (·.1), k ∉ d.map (·.1)) :
    dictSetMany d kvs = d ++ kvs := by
  induction kvs generalizing d with
  | nil => simp [dictSetMany]
  | cons p rest ih =>
    obtain ⟨k, v⟩ := p
    obtain ⟨hk, hnd⟩ := List.nodup_cons.mp hnd
    rw [dictSetMany, dictSet_of_not_mem k v d (hdis k List.mem_cons_self), ih _ hnd, List.append_assoc]
    · rfl
    · intro k' hk' hmem
      rw [List.map_append, List.mem_append] at hmem
      rcases hmem with hmem | hmem
      · exact hdis k' (List.mem_cons_of_mem _ hk') hmem
      · exact hk ((List.mem_singleton.mp hmem) ▸ hk')

theorem dictSetMany_nil {α : Type} (kvs : List (Key × α)) (hnd : (kvs.map (·.1)).Nodup) :
    dictSetMany [] kvs = kvs :=
  dictSetMany_fresh [] kvs hnd fun _ _ => List.not_mem_nil

theorem dictSetMany_update {α : Type} (d : List (Key × α)) (upd : List (Key × α))
    (hsub : ∀ k ∈ upd.map (·.1), k ∈ d.map (·.1)) (hnd : (upd.map (·.1)).Nodup) :
    (dictSetMany d upd).map (·.1) = d.map (·.1) ∧ ∀ p ∈ upd, p ∈ dictSetMany d upd := by
  induction upd generalizing d with
  | nil => simp [dictSetMany]
  | cons p rest ih =>
    obtain ⟨k, v⟩ := p
    unfold dictSetMany
    have hk : k ∈ d.map (·.1) := hsub k (by simp)
    have hkeys := dictSet_keys_of_mem k v d hk
    simp only [List.map_cons, List.nodup_cons] at hnd
    have hsub' : ∀ k' ∈ rest.map (·.1), k' ∈ (dictSet k v d).map (·.1) := by
      intro k' hk'
      rw [hkeys]
      exact hsub k' (by simp [hk'])
    obtain ⟨h1, h2⟩ := ih (dictSet k v d) hsub' hnd.2
    refine ⟨h1.trans hkeys, ?_⟩
    intro q hq
    simp only [List.mem_cons] at hq
    rcases hq with hq | hq
    · subst hq
      exact dictSetMany_mem_preserved rest _ k v hnd.1 (dictSet_mem_self k v d)
    · exact h2 q hq

theorem assoc_eq_of_keys_of_mem {α : Type} (l₁ l₂ : List (Key × α))
    (hk : l₁.map (·.1) = l₂.map (·.1)) (hnd : (l₁.map (·.1)).Nodup) (hmem : ∀ p ∈ l₂, p ∈ l₁) :
    l₁ = l₂ := by
  induction l₁ generalizing l₂ with
  | nil =>
    cases l₂ with
    | nil => rfl
    | cons _ _ => simp at hk
  | cons p ps ih =>
    cases l₂ with
    | nil => simp at hk
    | cons q qs =>
      simp only [List.map_cons, List.cons.injEq] at hk
      simp only [List.map_cons, List.nodup_cons] at hnd
      have hq : q ∈ p :: ps := hmem q (by simp)
      have hpq : p = q := by
        simp only [List.mem_cons] at hq
        rcases hq with hq | hq
        · exact hq.symm
        · exfalso
          apply hnd.1
          rw [hk.1]
          exact List.mem_map_of_mem (f := (·.1)) hq
      subst hpq
      congr 1
      apply ih qs hk.2 hnd.2
      intro r hr
      have := hmem r (by simp [hr])
      simp only [List.mem_cons] at this
      rcases this with h | h
      · exfalso
        apply hnd.1
        rw [hk.2, ← h]
        exact List.mem_map_of_mem (f := (·.1)) hr
      · exact h

/-- `MakeNode` on (original keys, visiting order) rebuilds exactly the original dict -/
theorem dictBuild_eq_of_perm (kvs perm : List (Key × PyObj)) (hp : perm.Perm kvs)
    (hnd : (kvs.map (·.1)).Nodup) :
    dictBuild (some (kvs.map (·.1))) (perm.map (·.1)) (perm.map (·.2)) = kvs := by
  have hseedkeys : (((kvs.map (·.1)).map fun k => (k, PyObj.none)).map (·.1)) = kvs.map (·.1) := by
    rw [List.map_map]; exact List.map_id'' (fun _ => rfl) _
  have hpk : (perm.map (·.1)).Perm (kvs.map (·.1)) := hp.map _
  unfold dictBuild
  simp only
  rw [← List.zip_of_prod rfl rfl, dictSetMany_nil _ (by rwa [hseedkeys])]
  obtain ⟨h1, h2⟩ := dictSetMany_update ((kvs.map (·.1)).map fun k => (k, PyObj.none)) perm
    (fun k hk => by rw [hseedkeys]; exact hpk.subset hk) (hpk.nodup_iff.mpr hnd)
  exact assoc_eq_of_keys_of_mem _ _ (h1.trans hseedkeys) (by rwa [h1, hseedkeys])
    fun p hpm => h2 p (hp.symm.subset hpm)

theorem dictBuild_none_zip (ks : List Key) (vs : List PyObj) (hnd : ks.Nodup) (hl : vs.length = ks.length) :
    dictBuild Option.none ks vs = ks.zip vs :=
  dictSetMany_nil _ (by rwa [List.map_fst_zip (Nat.le_of_eq hl.symm)])

theorem dictBuild_none (kvs : List (Key × PyObj)) (hnd : (kvs.map (·.1)).Nodup) :
    dictBuild Option.none (kvs.map (·.1)) (kvs.map (·.2)) = kvs := by
  rw [dictBuild_none_zip _ _ hnd (by simp), ← List.zip_of_prod rfl rfl]

theorem lookupKey_mem {α : Type} {k : Key} {v : α} : ∀ {l : List (Key × α)}, lookupKey k l = some v → (k, v) ∈ l
  | (k', v') :: l, h => by
      rw [lookupKey] at h
      split at h
      · rename_i e
        cases h
        rw [beq_iff_eq.mp e]
        exact List.mem_cons_self
      · exact List.mem_cons_of_mem _ (lookupKey_mem h)

theorem lookupKey_eq_none_iff {α : Type} {k : Key} {l : List (Key × α)} :
    lookupKey k l = Option.none ↔ k ∉ l.map (·.1) := by
  induction l with
  | nil => simp [lookupKey]
  | cons p l ih =>
    obtain ⟨k', v⟩ := p
    rw [lookupKey, List.map_cons, List.mem_cons, not_or]
    split
    · rename_i e
      exact iff_of_false nofun fun h => h.1 (beq_iff_eq.mp e).symm
    · rename_i e
      rw [ih]
      exact (and_iff_right fun h => e (beq_iff_eq.mpr h.symm)).symm

theorem lookupKey_none_of_not_mem {α : Type} (k : Key) (l : List (Key × α)) (h : k ∉ l.map (·.1)) :
    lookupKey k l = Option.none :=
  lookupKey_eq_none_iff.mpr h

theorem lookupKey_of_mem {α : Type} {k : Key} {v : α} : ∀ {l : List (Key × α)}, (l.map (·.1)).Nodup →
    (k, v) ∈ l → lookupKey k l = some v
  | (k', v') :: l, hnd, h => by
      simp only [List.map_cons, List.nodup_cons] at hnd
      simp only [lookupKey]
      rcases List.mem_cons.mp h with h | h
      · cases h; simp
      · rw [if_neg, lookupKey_of_mem hnd.2 h]
        rintro e
        exact hnd.1 (List.mem_map.mpr ⟨(k, v), h, (beq_iff_eq.mp e).symm⟩)

theorem lookupKey_perm {α : Type} (k : Key) {l₁ l₂ : List (Key × α)} (hp : l₁.Perm l₂)
    (hnd : (l₁.map (·.1)).Nodup) : lookupKey k l₁ = lookupKey k l₂ := by
  cases h : lookupKey k l₂ with
  | none => exact lookupKey_eq_none_iff.mpr fun hk => lookupKey_eq_none_iff.mp h ((hp.map (·.1)).mem_iff.mp hk)
  | some v => exact lookupKey_of_mem hnd (hp.mem_iff.mpr (lookupKey_mem h))

theorem lookupKey_zip_self {α : Type} (dflt : α) :
    ∀ (ks : List Key) (vs : List α), ks.Nodup → vs.length = ks.length →
      ks.map (fun k => (lookupKey k (ks.zip vs)).getD dflt) = vs
  | [], [], _, _ => rfl
  | [], _ :: _, _, h => by simp at h
  | _ :: _, [], _, h => by simp at h
  | k :: ks, v :: vs, hnd, hl => by
      have hnd' := List.nodup_cons.mp hnd
      simp only [List.length_cons, Nat.add_right_cancel_iff] at hl
      simp only [List.zip_cons_cons, List.map_cons, lookupKey, beq_self_eq_true, if_true, Option.getD_some,
        List.cons.injEq, true_and]
      -- the later keys differ from `k`, so their lookups pass over the first pair
      refine (List.map_congr_left fun k' hk' => ?_).trans (lookupKey_zip_self dflt ks vs hnd'.2 hl)
      have hne : (k == k') = false := by
        simp only [beq_eq_false_iff_ne, ne_eq]
        intro e; subst e; exact hnd'.1 hk'
      simp only [hne, Bool.false_eq_true, if_false]

theorem mapM_lookup_of_mem {α : Type} (ks : List Key) (kvs : List (Key × α))
    (h : ∀ k ∈ ks, k ∈ kvs.map (·.1)) : ∃ xs, ks.mapM (fun k => lookupKey k kvs) = some xs := by
  induction ks with
  | nil => exact ⟨[], rfl⟩
  | cons k ks ih =>
    obtain ⟨xs, hxs⟩ := ih fun k' hk' => h k' (List.mem_cons_of_mem _ hk')
    cases hv : lookupKey k kvs with
    | none => exact absurd (h k List.mem_cons_self) (lookupKey_eq_none_iff.mp hv)
    | some v => exact ⟨v :: xs, by simp [List.mapM_cons, hv, hxs]⟩

theorem mapM_lookup_items (kvs items : List (Key × PyObj)) (hp : items.Perm kvs) (hnd : (kvs.map (·.1)).Nodup) :
    (items.map (·.1)).mapM (fun k => lookupKey k kvs) = some (items.map (·.2)) := by
  rw [mapM_eq_some_iff, List.map_map, List.map_map]
  exact List.map_congr_left fun p hp' => lookupKey_of_mem hnd (hp.subset hp')

end Optree
