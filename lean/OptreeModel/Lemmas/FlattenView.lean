/-
  `flatten` and `flatten_with_path` one level at a time: `flattenGo` / `flattenGoP` through the view
  (Lemmas/View.lean), a success of each stage read backwards (`…_ok`), the custom case for a well-behaved flatten
  function (`customFlatten_regEntries`), and the induction principle for the children's sequenced results
  (`seqOuts_induct`).
-/
import OptreeModel.Lemmas.View

namespace Optree

theorem flattenList_eq (cfg : Cfg) (s : Bool) (d : Nat) (xs : List PyObj) :
    flattenList cfg s d xs = xs.map (flattenGo cfg s d) := by
  induction xs with
  | nil => rfl
  | cons x xs ih => simp [flattenList, ih]

theorem flattenKVs_eq (cfg : Cfg) (s : Bool) (d : Nat) (kvs : List (Key × PyObj)) :
    flattenKVs cfg s d kvs = kvs.map (fun p => (p.1, flattenGo cfg s d p.2)) := by
  induction kvs with
  | nil => rfl
  | cons p kvs ih => obtain ⟨k, x⟩ := p; simp [flattenKVs, ih]

theorem flattenGo_view (cfg : Cfg) (s : Bool) (d : Nat) (x : PyObj) :
    flattenGo cfg s d x =
      if d > cfg.maxDepth then .error .recursion
      else match cfg.evalPred x with
      | .error e => .error e
      | .ok true => .ok (leafOut x)
      | .ok false =>
        match x.view cfg s with
        | .leaf => .ok (leafOut x)
        | .node k data ok cs =>
            closeSeq (cs.map (flattenGo cfg s (d + 1))) k cs.length data Option.none Option.none ok
        | .custom reg md q cs =>
            customFlatten reg (customOutOf reg md q cs) (cs.map (flattenGo cfg s (d + 1))) := by
  rw [flattenGo.eq_def]
  cases x <;> dsimp only [PyObj.view]
  case leaf => rfl
  case none => cases cfg.noneIsLeaf <;> rfl
  case tuple xs | list xs | deque m xs => rw [flattenList_eq]; rfl
  case ntuple cls xs => rw [flattenList_eq]; cases cfg.reg.lookup cfg.ns 1 cls <;> rfl
  case sseq cls xs => rw [flattenList_eq]; cases cfg.reg.lookup cfg.ns 2 cls <;> rfl
  case user cls md q xs => rw [flattenList_eq]; cases cfg.reg.lookup cfg.ns 0 cls <;> rfl
  case dict kvs | ddict f kvs =>
    rw [flattenKVs_eq, dictOrder_mapVals]
    simp only [List.map_map, Function.comp_def, List.length_map, dictOrder_length]
    rfl
  case odict kvs => rw [flattenKVs_eq]; simp only [List.map_map, Function.comp_def, List.length_map]; rfl

theorem evalPred_none (cfg : Cfg) (hp : cfg.pred = Option.none) (x : PyObj) : cfg.evalPred x = .ok false := by
  simp [Cfg.evalPred, hp]

theorem flattenGo_prelude' (cfg : Cfg) (d : Nat) (x : PyObj) (out : FlatOut) (body : Except Err FlatOut)
    (h : (if d > cfg.maxDepth then Except.error Err.recursion
      else match cfg.evalPred x with
        | .error e => .error e
        | .ok true => .ok (leafOut x)
        | .ok false => body) = .ok out) :
    ¬ (d > cfg.maxDepth) ∧
      ((cfg.evalPred x = .ok true ∧ out = leafOut x) ∨ (cfg.evalPred x = .ok false ∧ body = .ok out)) := by
  split at h
  · cases h
  · rename_i hd
    refine ⟨hd, ?_⟩
    split at h
    · cases h
    · rename_i hp; cases h; exact .inl ⟨hp, rfl⟩
    · rename_i hp; exact .inr ⟨hp, h⟩

theorem flattenGo_ok {cfg : Cfg} {s : Bool} {d : Nat} {x : PyObj} {out : FlatOut}
    (h : flattenGo cfg s d x = .ok out) :
    ¬ (d > cfg.maxDepth) ∧
      ((cfg.evalPred x = .ok true ∧ out = leafOut x) ∨
       (cfg.evalPred x = .ok false ∧
        (match x.view cfg s with
         | .leaf => Except.ok (leafOut x)
         | .node k data ok cs =>
             closeSeq (cs.map (flattenGo cfg s (d + 1))) k cs.length data Option.none Option.none ok
         | .custom reg md q cs =>
             customFlatten reg (customOutOf reg md q cs) (cs.map (flattenGo cfg s (d + 1)))) = .ok out)) :=
  flattenGo_prelude' cfg d x out _ (flattenGo_view cfg s d x ▸ h)

theorem flatten_ok {cfg : Cfg} {t : PyObj} {ls : List PyObj} {sp : Spec}
    (h : flatten cfg t = .ok (ls, sp)) :
    ∃ out, flattenGo cfg (!cfg.insertionOrdered) 0 t = .ok out ∧ ls = out.leaves ∧
      sp = { nodes := out.nodes, noneIsLeaf := cfg.noneIsLeaf,
             ns := if out.custom || cfg.insertionOrdered (inherit := false) then cfg.ns else "" } := by
  unfold flatten at h
  simp only at h
  split at h
  · cases h
  · rename_i out hout; cases h; exact ⟨out, hout, rfl, rfl⟩

theorem flatten_of_flattenGo {cfg : Cfg} {t : PyObj} {out : FlatOut}
    (h : flattenGo cfg (!cfg.insertionOrdered) 0 t = .ok out) :
    flatten cfg t =
      .ok (out.leaves, { nodes := out.nodes, noneIsLeaf := cfg.noneIsLeaf,
                         ns := if out.custom || cfg.insertionOrdered (inherit := false) then cfg.ns else "" }) := by
  simp only [flatten, h]

theorem flatten_ns {cfg : Cfg} {t : PyObj} {ls : List PyObj} {sp : Spec} (h : flatten cfg t = .ok (ls, sp)) :
    (sp.ns = cfg.ns ∨ sp.ns = "") ∧ sp.noneIsLeaf = cfg.noneIsLeaf := by
  obtain ⟨out, -, -, rfl⟩ := flatten_ok h
  exact ⟨by simp only; split <;> simp, rfl⟩

theorem flattenWithPath_ok {cfg : Cfg} {t : PyObj} {ps : List (List Key)} {ls : List PyObj} {sp : Spec}
    (h : flattenWithPath cfg t = .ok (ps, ls, sp)) :
    ∃ out, flattenGoP cfg (!cfg.insertionOrdered) 0 [] t = .ok out ∧ ps = out.leaves.map (·.1) ∧
      ls = out.leaves.map (·.2) ∧
      sp = { nodes := out.nodes, noneIsLeaf := cfg.noneIsLeaf,
             ns := if out.custom || cfg.insertionOrdered (inherit := false) then cfg.ns else "" } := by
  unfold flattenWithPath at h
  simp only at h
  split at h
  · cases h
  · rename_i out hout; cases h; exact ⟨out, hout, rfl, rfl, rfl⟩

theorem flattenListE_eq (cfg : Cfg) (s : Bool) (d : Nat) (path : List Key) :
    ∀ (ks : List Key) (xs : List PyObj), flattenListE cfg s d path ks xs =
      List.zipWith (fun e c => flattenGoP cfg s d (path ++ [e]) c) ks xs
  | _, [] => by simp [flattenListE]
  | [], _ :: _ => by simp [flattenListE]
  | k :: ks, x :: xs => by simp [flattenListE, flattenListE_eq cfg s d path ks xs]

theorem intEntries_eq_range' (n : Nat) :
    intEntries n = (List.range' 0 n).map fun (i : Nat) => Key.int (i : Int) := by
  simp [intEntries, List.range_eq_range']

theorem flattenListP_eq (cfg : Cfg) (s : Bool) (d : Nat) (path : List Key) :
    ∀ (i : Nat) (xs : List PyObj), flattenListP cfg s d path i xs =
      List.zipWith (fun e c => flattenGoP cfg s d (path ++ [e]) c)
        ((List.range' i xs.length).map fun (j : Nat) => Key.int (j : Int)) xs
  | _, [] => by simp [flattenListP]
  | i, x :: xs => by simp [flattenListP, flattenListP_eq cfg s d path (i + 1) xs, List.range'_succ]

theorem flattenKVsP_eq (cfg : Cfg) (s : Bool) (d : Nat) (path : List Key) (kvs : List (Key × PyObj)) :
    flattenKVsP cfg s d path kvs = kvs.map fun p => (p.1, flattenGoP cfg s d (path ++ [p.1]) p.2) := by
  induction kvs with
  | nil => rfl
  | cons p kvs ih => obtain ⟨k, x⟩ := p; simp [flattenKVsP, ih]

theorem flattenGoP_view (cfg : Cfg) (s : Bool) (d : Nat) (path : List Key) (x : PyObj) :
    flattenGoP cfg s d path x =
      if d > cfg.maxDepth then .error .recursion
      else match cfg.evalPred x with
      | .error e => .error e
      | .ok true => .ok (leafOutP path x)
      | .ok false =>
        let under (es : List Key) (cs : List PyObj) :=
          List.zipWith (fun e c => flattenGoP cfg s (d + 1) (path ++ [e]) c) es cs
        match x.view cfg s with
        | .leaf => .ok (leafOutP path x)
        | .node k data ok cs =>
            closeSeqP (under (defaultEntriesOf data cs.length) cs) k cs.length data Option.none Option.none ok
        | .custom reg md q cs =>
            customFlattenP reg (customOutOf reg md q cs) (under (intEntries cs.length) cs)
              (fun ks => under ks cs) cs.length := by
  rw [flattenGoP.eq_def]
  cases x <;> dsimp only [PyObj.view]
  case leaf => rfl
  case none => cases cfg.noneIsLeaf <;> rfl
  case tuple xs | list xs | deque m xs => rw [flattenListP_eq, ← intEntries_eq_range']; rfl
  case ntuple cls xs =>
    simp only [flattenListP_eq, flattenListE_eq, ← intEntries_eq_range']
    cases cfg.reg.lookup cfg.ns 1 cls <;> rfl
  case sseq cls xs =>
    simp only [flattenListP_eq, flattenListE_eq, ← intEntries_eq_range']
    cases cfg.reg.lookup cfg.ns 2 cls <;> rfl
  case user cls md q xs =>
    simp only [flattenListP_eq, flattenListE_eq, ← intEntries_eq_range']
    cases cfg.reg.lookup cfg.ns 0 cls <;> rfl
  case dict kvs | ddict f kvs =>
    rw [flattenKVsP_eq,
      dictOrder_map false s (fun p => (p.1, flattenGoP cfg s (d + 1) (path ++ [p.1]) p.2)) (fun _ => rfl)]
    simp only [defaultEntriesOf, List.zipWith_map_left, List.zipWith_map_right, List.map_map, Function.comp_def,
      List.zipWith_self, List.length_map, dictOrder_length]
    rfl
  case odict kvs =>
    rw [flattenKVsP_eq]
    simp only [defaultEntriesOf, List.zipWith_map_left, List.zipWith_map_right, List.map_map, Function.comp_def,
      List.zipWith_self, List.length_map]
    rfl

/-- Induction over a successful `seqOuts` of the children's results: what is known of each child's result (`P`)
gives what is wanted of the sequenced result (`Q`). -/
theorem seqOuts_induct {α : Type} {f : α → Except Err FlatOut} {P : α → FlatOut → Prop}
    {Q : List α → FlatOut → Prop} (nil : Q [] FlatOut.empty)
    (cons : ∀ c cs a b, P c a → Q cs b → Q (c :: cs) (a.append b)) :
    ∀ {cs b}, (∀ c ∈ cs, ∀ o, f c = .ok o → P c o) → seqOuts (cs.map f) = .ok b → Q cs b
  | [], b, _, h => by cases h; exact nil
  | c :: cs, b, ih, h => by
      simp only [List.map_cons, seqOuts] at h
      split at h
      · cases h
      · rename_i a ha
        split at h
        · cases h
        · rename_i b' hb
          cases h
          exact cons c cs a b' (ih c List.mem_cons_self a ha)
            (seqOuts_induct nil cons (fun c' hc' => ih c' (List.mem_cons_of_mem c hc')) hb)

theorem seqClose_ok {rs : List (Except Err FlatOut)} {kind : Kind} {n : Nat} {data : NodeData}
    {entries : Option (List Key)} {custom : Option Reg} {okeys : Option (List Key)} {fc : Bool} {out : FlatOut}
    (h : (match seqOuts rs with
          | .error e => Except.error e
          | .ok b => .ok (b.close kind n data entries custom okeys fc)) = .ok out) :
    ∃ b, seqOuts rs = .ok b ∧ out = b.close kind n data entries custom okeys fc := by
  split at h
  · cases h
  · rename_i b hb; cases h; exact ⟨b, hb, rfl⟩

theorem closeSeq_ok {rs : List (Except Err FlatOut)} {kind : Kind} {n : Nat} {data : NodeData}
    {entries : Option (List Key)} {custom : Option Reg} {okeys : Option (List Key)} {out : FlatOut}
    (h : closeSeq rs kind n data entries custom okeys = .ok out) :
    ∃ b, seqOuts rs = .ok b ∧ out = b.close kind n data entries custom okeys false :=
  seqClose_ok h

theorem close_nodes_ne_leaf (b : FlatOut) {kind : Kind} (hk : kind ≠ .leaf) (n : Nat) (data : NodeData)
    (entries : Option (List Key)) (custom : Option Reg) (okeys : Option (List Key)) (fc : Bool) :
    (b.close kind n data entries custom okeys fc).nodes ≠ [Node.leaf] := by
  intro e
  have := congrArg List.getLast? e
  simp only [FlatOut.close, List.getLast?_append, List.getLast?_singleton, Option.some_or,
    Option.some.injEq] at this
  exact hk (congrArg Node.kind this)

theorem customFlatten_ok {reg : Reg} {co : CustomOut} {rs : List (Except Err FlatOut)} {out : FlatOut}
    (h : customFlatten reg co rs = .ok out) :
    ∃ b entries, seqOuts rs = .ok b ∧
      out = b.close .custom rs.length (.md co.md) entries (some reg) Option.none true := by
  unfold customFlatten at h
  split at h; · cases h
  split at h; · cases h
  split at h; · cases h
  rename_i b hb
  simp only at h
  split at h; · cases h
  rename_i entries _
  cases h
  exact ⟨b, entries, hb, rfl⟩

theorem seqOuts_error_mem (rs : List (Except Err FlatOut)) (e : Err) (h : seqOuts rs = .error e) :
    Except.error e ∈ rs := by
  induction rs with
  | nil => simp [seqOuts] at h
  | cons r rs ih =>
    cases r with
    | error e0 => simp [seqOuts] at h; subst h; simp
    | ok a =>
      simp only [seqOuts] at h
      cases hs : seqOuts rs with
      | error e1 => rw [hs] at h; simp at h; subst h; simp [ih hs]
      | ok b => rw [hs] at h; simp at h

/-- a failing custom case, read backwards: the two checks of the returned tuple, a failing child, or the two
checks of the entries -/
theorem customFlatten_error {reg : Reg} {co : CustomOut} {rs : List (Except Err FlatOut)} {e : Err}
    (h : customFlatten reg co rs = .error e) : e = .runtime ∨ e = .type_ ∨ Except.error e ∈ rs := by
  unfold customFlatten at h
  split at h
  · cases h; exact .inl rfl
  split at h
  · cases h; exact .inr (.inl rfl)
  split at h
  · rename_i hs; cases h; exact .inr (.inr (seqOuts_error_mem rs _ hs))
  simp only at h
  split at h
  · rename_i e' he
    cases h
    split at he
    · split at he
      · cases he
      · cases he
      · split at he
        · cases he; exact .inl rfl
        · cases he
      · cases he; exact .inr (.inl rfl)
    · cases he
  · cases h

@[simp] theorem customOutOf_md (reg : Reg) (md : Option Key) (q : Quirk) (cs : List PyObj) :
    (customOutOf reg md q cs).md = md := by
  cases q <;> rfl

theorem namedEntries_length (n : Nat) : (namedEntries n).length = n := by simp [namedEntries]
theorem shiftedEntries_length (n : Nat) : (shiftedEntries n).length = n := by simp [shiftedEntries]

/-- the entries a well-behaved registered flatten function reports for `n` children -/
def customEntries (reg : Reg) (n : Nat) : Option (List Key) :=
  match reg.mode with
  | .two | .none3 => Option.none
  | .named => some (namedEntries n)
  | .shifted => some (shiftedEntries n)

/-- For a well-behaved flatten function (`quirk = ok`) the custom case is "sequence the children, close the
node", with entries that depend on the registration and the number of children only. -/
theorem customFlatten_regEntries (reg : Reg) (md : Option Key) (xs : List PyObj)
    (rs : List (Except Err FlatOut)) (hlen : rs.length = xs.length) :
    customFlatten reg (customOutOf reg md .ok xs) rs =
      (match seqOuts rs with
       | .error e => .error e
       | .ok body => .ok (body.close .custom xs.length (.md md) (customEntries reg xs.length) (some reg)
                            Option.none true)) := by
  unfold customFlatten customOutOf customEntries
  cases hm : reg.mode <;> simp [entriesFor, hlen, namedEntries_length, shiftedEntries_length] <;>
    cases seqOuts rs <;> rfl

/-- The path-carrying twin of `seqOuts_induct`, without the per-child premise: its one user (`seqOutsP_paths`)
sequences over pairs of entry and child, whose membership facts it derives itself. -/
theorem seqOutsP_map_induct {α : Type} (f : α → Except Err FlatOutP) {Q : List α → FlatOutP → Prop}
    (nil : Q [] FlatOutP.empty)
    (cons : ∀ c cs a b, f c = .ok a → seqOutsP (cs.map f) = .ok b → Q cs b → Q (c :: cs) (a.append b)) :
    ∀ cs b, seqOutsP (cs.map f) = .ok b → Q cs b
  | [], b, h => by cases h; exact nil
  | c :: cs, b, h => by
      simp only [List.map_cons, seqOutsP] at h
      split at h
      · cases h
      · rename_i a ha
        split at h
        · cases h
        · rename_i b' hb
          cases h
          exact cons c cs a b' ha hb (seqOutsP_map_induct f nil cons cs b' hb)

theorem seqCloseP_ok {rs : List (Except Err FlatOutP)} {kind : Kind} {n : Nat} {data : NodeData}
    {entries : Option (List Key)} {custom : Option Reg} {okeys : Option (List Key)} {fc : Bool} {out : FlatOutP}
    (h : (match seqOutsP rs with
          | .error e => Except.error e
          | .ok b => .ok (b.close kind n data entries custom okeys fc)) = .ok out) :
    ∃ b, seqOutsP rs = .ok b ∧ out = b.close kind n data entries custom okeys fc := by
  split at h
  · cases h
  · rename_i b hb; cases h; exact ⟨b, hb, rfl⟩

/-- For a well-behaved flatten function (`quirk = ok`) the custom case of `flatten_with_path` is "sequence
the children under the registration's entries (positions if it reports none), close the node". -/
theorem customFlattenP_regEntries (reg : Reg) (md : Option Key) (xs : List PyObj)
    (f : Key → PyObj → Except Err FlatOutP) :
    customFlattenP reg (customOutOf reg md .ok xs) (List.zipWith f (intEntries xs.length) xs)
        (fun es => List.zipWith f es xs) xs.length =
      (match seqOutsP (List.zipWith f ((customEntries reg xs.length).getD (intEntries xs.length)) xs) with
       | .error e => .error e
       | .ok body => .ok (body.close .custom xs.length (.md md) (customEntries reg xs.length) (some reg)
                            Option.none true)) := by
  have ht : ∀ es : List Key, es.length = xs.length →
      (List.zipWith f es xs).take xs.length = List.zipWith f es xs :=
    fun es h => List.take_of_length_le (by simp [h])
  unfold customFlattenP customOutOf customEntries
  -- by mode: two outputs, or `None` for the entries, take the branch with integer entries; named and shifted
  -- entries are as many as the children, so `take` cuts nothing (`ht`) and the check of their number passes
  cases hm : reg.mode <;>
    simp [entriesFor, namedEntries_length, shiftedEntries_length, ht] <;> split <;> simp [*]

theorem customEntries_getD_length (reg : Reg) (n : Nat) :
    ((customEntries reg n).getD (intEntries n)).length = n := by
  unfold customEntries
  cases reg.mode <;> simp [namedEntries_length, shiftedEntries_length, intEntries]

end Optree
