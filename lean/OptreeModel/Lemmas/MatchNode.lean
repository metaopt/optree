/-
  One level of `PyTreeSpec::FlattenUpTo`: what it takes for an object to be accepted at one node record.

  `STree.upTo` and `flattenUpToGo` are both "match one level, then go on with the children".  `matchNode`
  is that level: the children of the object in the order of the node's children, or the error raised at
  this node.  `Matches` is its success as a relation, eight cases with every fact the matcher checked in
  the context; theorems about a successful match go by `cases` on it and never unfold the matcher.
-/
import OptreeModel.Model.STree
import OptreeModel.Lemmas.Control

namespace Optree

theorem lookupForObject_eq_some {reg : Registry} {ns : String} {t : PyObj} {r : Reg}
    (h : lookupForObject reg ns t = some r) :
    (∃ c md q xs, t = .user c md q xs ∧ reg.lookup ns 0 c = some r) ∨
      (∃ c xs, t = .ntuple c xs ∧ reg.lookup ns 1 c = some r) ∨
      (∃ c xs, t = .sseq c xs ∧ reg.lookup ns 2 c = some r) := by
  cases t
  case user => exact .inl ⟨_, _, _, _, rfl, h⟩
  case ntuple => exact .inr (.inl ⟨_, _, rfl, h⟩)
  case sseq => exact .inr (.inr ⟨_, _, rfl, h⟩)
  all_goals cases h

def matchDictK {α : Type} (keys : List Key) (t : PyObj) (k : List PyObj → Except Err α) : Except Err α :=
  match dictItems? t with
  | Option.none => .error .value
  | some kvs =>
      if !keySetEq keys (kvs.map (·.1)) then .error .value
      else
        match keys.mapM (fun k => lookupKey k kvs) with
        | Option.none => .error .key
        | some xs => k xs

/-- the custom kind: an instance filed under the node's registration whose flatten function returns the
node's metadata and as many children -/
def matchCustomK {α : Type} (reg : Registry) (ns : String) (i : NInfo) (n : Nat) (t : PyObj)
    (k : List PyObj → Except Err α) : Except Err α :=
  match i.custom with
  | Option.none => .error .internal
  | some nreg =>
    if lookupForObject reg ns t != some nreg then .error .value
    else
      let co := customOut nreg t
      if co.numOut != 2 && co.numOut != 3 then .error .runtime
      else if i.data != .md co.md then .error .value
      else match co.children with
        | Option.none => .error .type_
        | some xs => if xs.length != n then .error .value else k xs

/-- one level of `FlattenUpTo` with the continuation `k` for the children: the body that `STree.upTo`
and `flattenUpToGo` share, for a record `i` with `n` children -/
def matchNodeK {α : Type} (reg : Registry) (nil : Bool) (ns : String) (i : NInfo) (n : Nat) (t : PyObj)
    (k : List PyObj → Except Err α) : Except Err α :=
  match i.kind with
  | .leaf => .error .internal
  | .none =>
      if nil then .error .internal
      else match t with
        | .none => k []
        | _ => .error .value
  | .tuple =>
      match t with
      | .tuple xs => if xs.length != n then .error .value else k xs
      | _ => .error .value
  | .list =>
      match t with
      | .list xs => if xs.length != n then .error .value else k xs
      | _ => .error .value
  | .dict | .ordereddict | .defaultdict => matchDictK i.keys t k
  | .namedtuple =>
      match t with
      | .ntuple cls xs =>
          if xs.length != n then .error .value
          else if i.data != .cls cls then .error .value
          else k xs
      | _ => .error .value
  | .deque =>
      match t with
      | .deque _ xs => if xs.length != n then .error .value else k xs
      | _ => .error .value
  | .structseq =>
      match t with
      | .sseq cls xs =>
          if xs.length != n then .error .value
          else if i.data != .cls cls then .error .value
          else k xs
      | _ => .error .value
  | .custom => matchCustomK reg ns i n t k

def matchNode (reg : Registry) (nil : Bool) (ns : String) (i : NInfo) (n : Nat) (t : PyObj) :
    Except Err (List PyObj) :=
  matchNodeK reg nil ns i n t .ok

theorem matchDictK_eq {α : Type} (keys : List Key) (t : PyObj) (k : List PyObj → Except Err α) :
    matchDictK keys t k = (matchDictK keys t .ok).bind k := by
  unfold matchDictK
  cases dictItems? t
  · rfl
  · simp only [Except.ite_bind]
    cases List.mapM (m := Option) _ keys <;> rfl

theorem matchCustomK_eq {α : Type} (reg : Registry) (ns : String) (i : NInfo) (n : Nat) (t : PyObj)
    (k : List PyObj → Except Err α) :
    matchCustomK reg ns i n t k = (matchCustomK reg ns i n t .ok).bind k := by
  unfold matchCustomK
  cases i.custom
  · rfl
  · simp only [Except.ite_bind]
    cases (customOut _ t).children <;> simp only [Except.ite_bind] <;> rfl

theorem matchNodeK_eq {α : Type} (reg : Registry) (nil : Bool) (ns : String) (i : NInfo) (n : Nat) (t : PyObj)
    (k : List PyObj → Except Err α) :
    matchNodeK reg nil ns i n t k = (matchNode reg nil ns i n t).bind k := by
  -- `unfold`, not `rw`: the equations `rw` would use for `matchNodeK` split the catch-all patterns on `t`
  -- and leave their side conditions as goals
  unfold matchNode matchNodeK
  split
  case h_1 => rfl
  case h_2 =>
    split
    · rfl
    · split <;> rfl
  case h_5 | h_6 | h_7 => exact matchDictK_eq _ t k
  case h_11 => exact matchCustomK_eq reg ns i n t k
  -- the five sequence kinds: an object of another type, or guards in front of `k xs`
  all_goals
    split
    · simp only [Except.ite_bind]; rfl
    · rfl

theorem flattenUpToGo_done (reg : Registry) (nil : Bool) (ns : String) (N : Nat) (nodes : List Node)
    (acc : List PyObj) :
    flattenUpToGo reg nil ns N nodes [] acc =
      if !nodes.isEmpty || acc.length != N then .error .value else .ok acc := by
  cases nodes <;> rfl

theorem flattenUpToGo_leaf (reg : Registry) (nil : Bool) (ns : String) (N : Nat) {node : Node} (nodes : List Node)
    (obj : PyObj) (agenda acc : List PyObj) (h : node.kind = .leaf) :
    flattenUpToGo reg nil ns N (node :: nodes) (obj :: agenda) acc =
      if acc.length ≥ N then .error .internal else flattenUpToGo reg nil ns N nodes agenda (obj :: acc) := by
  rw [flattenUpToGo.eq_def]
  simp only [h]

theorem flattenUpToGo_node (reg : Registry) (nil : Bool) (ns : String) (N : Nat) {node : Node} (nodes : List Node)
    (obj : PyObj) (agenda acc : List PyObj) (h : node.kind ≠ .leaf) :
    flattenUpToGo reg nil ns N (node :: nodes) (obj :: agenda) acc =
      (matchNode reg nil ns node.info node.arity obj).bind fun xs =>
        flattenUpToGo reg nil ns N nodes (xs.reverse ++ agenda) acc := by
  rw [← matchNodeK_eq, flattenUpToGo.eq_def]
  -- with the record taken apart, `node.info.kind` is the `kind` the left side matches on
  obtain ⟨kind, _, _, _, _, _, _, _⟩ := node
  cases kind
  case leaf => exact absurd rfl h
  all_goals rfl

inductive Matches (reg : Registry) (nil : Bool) (ns : String) (i : NInfo) (n : Nat) : PyObj → List PyObj → Prop
  | none : i.kind = .none → nil = false → Matches reg nil ns i n .none []
  | tuple (xs) : i.kind = .tuple → xs.length = n → Matches reg nil ns i n (.tuple xs) xs
  | list (xs) : i.kind = .list → xs.length = n → Matches reg nil ns i n (.list xs) xs
  | deque (m xs) : i.kind = .deque → xs.length = n → Matches reg nil ns i n (.deque m xs) xs
  | ntuple (c xs) : i.kind = .namedtuple → i.data = .cls c → xs.length = n → Matches reg nil ns i n (.ntuple c xs) xs
  | sseq (c xs) : i.kind = .structseq → i.data = .cls c → xs.length = n → Matches reg nil ns i n (.sseq c xs) xs
  | dict (t kvs xs) : i.kind.isDict = true → dictItems? t = some kvs → keySetEq i.keys (kvs.map (·.1)) = true →
      i.keys.mapM (fun k => lookupKey k kvs) = some xs → Matches reg nil ns i n t xs
  | custom (t nreg xs) : i.kind = .custom → i.custom = some nreg → lookupForObject reg ns t = some nreg →
      ((customOut nreg t).numOut = 2 ∨ (customOut nreg t).numOut = 3) → i.data = .md (customOut nreg t).md →
      (customOut nreg t).children = some xs → xs.length = n → Matches reg nil ns i n t xs

theorem matchDict_eq_ok {keys : List Key} {t : PyObj} {xs : List PyObj} :
    matchDictK keys t .ok = .ok xs ↔ ∃ kvs, dictItems? t = some kvs ∧ keySetEq keys (kvs.map (·.1)) = true ∧
      keys.mapM (fun k => lookupKey k kvs) = some xs := by
  unfold matchDictK
  cases dictItems? t with
  | none => simp
  | some kvs =>
    cases hm : keys.mapM (fun k => lookupKey k kvs) <;> simp [ite_error_eq_ok, hm]

theorem matchCustom_eq_ok {reg : Registry} {ns : String} {i : NInfo} {n : Nat} {t : PyObj} {xs : List PyObj} :
    matchCustomK reg ns i n t .ok = .ok xs ↔ ∃ nreg, i.custom = some nreg ∧ lookupForObject reg ns t = some nreg ∧
      ((customOut nreg t).numOut = 2 ∨ (customOut nreg t).numOut = 3) ∧ i.data = .md (customOut nreg t).md ∧
      (customOut nreg t).children = some xs ∧ xs.length = n := by
  unfold matchCustomK
  cases i.custom with
  | none => simp
  | some nreg =>
    simp only [Option.some.injEq, exists_eq_left', ite_error_eq_ok, Bool.and_eq_true, bne_iff_ne, ne_eq,
      Decidable.not_and_iff_not_or_not, Decidable.not_not]
    cases (customOut nreg t).children with
    | none => simp
    | some ys =>
      simp only [ite_error_eq_ok, Decidable.not_not, Except.ok.injEq, Option.some.injEq]
      exact ⟨by rintro ⟨a, b, c, d, rfl⟩; exact ⟨a, b, c, rfl, d⟩, by rintro ⟨a, b, c, rfl, d⟩; exact ⟨a, b, c, d, rfl⟩⟩

theorem matchNode_none {reg : Registry} {nil : Bool} {ns : String} {i : NInfo} {n : Nat} {t : PyObj}
    (hk : i.kind = .none) : matchNode reg nil ns i n t =
      if nil then .error .internal else match t with | .none => .ok [] | _ => .error .value := by
  unfold matchNode matchNodeK
  rw [hk]

theorem matchNode_dict {reg : Registry} {nil : Bool} {ns : String} {i : NInfo} {n : Nat} {t : PyObj}
    (hd : i.kind.isDict = true) : matchNode reg nil ns i n t = matchDictK i.keys t .ok := by
  unfold matchNode matchNodeK
  cases hk : i.kind <;> first | rfl | (rw [hk] at hd; cases hd)

theorem matchNode_custom {reg : Registry} {nil : Bool} {ns : String} {i : NInfo} {n : Nat} {t : PyObj}
    (hk : i.kind = .custom) : matchNode reg nil ns i n t = matchCustomK reg ns i n t .ok := by
  unfold matchNode matchNodeK
  rw [hk]

theorem matchNode_eq_ok {reg : Registry} {nil : Bool} {ns : String} {i : NInfo} {n : Nat} {t : PyObj}
    {xs : List PyObj} : matchNode reg nil ns i n t = .ok xs ↔ Matches reg nil ns i n t xs := by
  constructor
  · intro h
    unfold matchNode matchNodeK at h
    split at h
    case h_1 => cases h
    case h_2 hk =>
      obtain ⟨hn, h⟩ := ite_error_eq_ok.mp h
      split at h <;> cases h
      exact .none hk (Bool.eq_false_iff.mpr hn)
    -- tuple, list, deque: an object of the kind's type with `n` children
    case h_3 hk | h_4 hk | h_9 hk =>
      split at h
      · obtain ⟨hl, ⟨⟩⟩ := bne_error_eq_ok.mp h
        first | exact .tuple _ hk hl | exact .list _ hk hl | exact .deque _ _ hk hl
      · cases h
    case h_5 hk | h_6 hk | h_7 hk =>
      obtain ⟨kvs, h1, h2, h3⟩ := matchDict_eq_ok.mp h
      exact .dict t kvs xs (hk ▸ rfl) h1 h2 h3
    -- namedtuple, struct sequence: of the node's class as well
    case h_8 hk | h_10 hk =>
      split at h
      · obtain ⟨hl, h⟩ := bne_error_eq_ok.mp h
        obtain ⟨hd, ⟨⟩⟩ := bne_error_eq_ok.mp h
        first | exact .ntuple _ _ hk hd hl | exact .sseq _ _ hk hd hl
      · cases h
    case h_11 hk =>
      obtain ⟨nreg, h1, h2, h3, h4, h5, h6⟩ := matchCustom_eq_ok.mp h
      exact .custom t nreg xs hk h1 h2 h3 h4 h5 h6
  · intro h
    cases h
    case dict kvs hd hks hkv hm => rw [matchNode_dict hd]; exact matchDict_eq_ok.mpr ⟨kvs, hkv, hks, hm⟩
    case custom nreg hk hc hlo hno hd hn hch =>
      rw [matchNode_custom hk]; exact matchCustom_eq_ok.mpr ⟨nreg, hc, hlo, hno, hd, hch, hn⟩
    all_goals
      unfold matchNode matchNodeK
      simp only [*, bne_self_eq_false, Bool.false_eq_true, if_false]

theorem matchNode_length {reg : Registry} {nil : Bool} {ns : String} {i : NInfo} {n : Nat} {t : PyObj}
    {xs : List PyObj} (hnone : i.kind = .none → n = 0) (hdict : i.kind.isDict = true → i.keys.length = n)
    (h : matchNode reg nil ns i n t = .ok xs) : xs.length = n := by
  cases matchNode_eq_ok.mp h
  case none hk _ => exact (hnone hk).symm
  case dict kvs hd _ _ hm => rw [mapM_option_length hm]; exact hdict hd
  all_goals assumption

end Optree
