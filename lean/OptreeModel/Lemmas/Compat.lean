/-
  Node-level compatibility: what `is_prefix` (`NInfo.preC`) and `broadcast_to_common_suffix`
  (`NInfo.lubC`) ask of two node records before they look at the children.

  Each of the three definitions (`preC`, `lubC`, `fits`) matches on the eleven kinds; each gets one `_iff` that
  replaces the match by the Bool classifiers that matter (`Kind.isDict`, `Kind.cmpData`, `Kind.hasData`).
  Everything after the `_iff`s is proved from them in two cases, `isDict` or not, with no further sweep over `Kind`.
-/
import OptreeModel.Model.STree
import Batteries.Data.List.Perm

namespace Optree

theorem keySetEq_iff (ks oks : List Key) :
    keySetEq ks oks = true ↔ ks.length = oks.length ∧ ∀ k ∈ ks, k ∈ oks := by
  simp [keySetEq, List.all_eq_true]

theorem keySetEq_length {a b : List Key} (h : keySetEq a b = true) : a.length = b.length :=
  ((keySetEq_iff _ _).mp h).1

theorem keySetEq_mem {a b : List Key} (h : keySetEq a b = true) : ∀ k ∈ a, k ∈ b :=
  ((keySetEq_iff _ _).mp h).2

theorem keySetEq_refl (a : List Key) : keySetEq a a = true :=
  (keySetEq_iff _ _).mpr ⟨rfl, fun _ h => h⟩

theorem keySetEq_trans {a b c : List Key} (h1 : keySetEq a b = true) (h2 : keySetEq b c = true) :
    keySetEq a c = true := by
  rw [keySetEq_iff] at *
  exact ⟨h1.1.trans h2.1, fun k hk => h2.2 k (h1.2 k hk)⟩

theorem keys_perm {ks oks : List Key} (h : keySetEq ks oks = true) (hnd : ks.Nodup) :
    ks.Perm oks := by
  obtain ⟨hl, hm⟩ := (keySetEq_iff ks oks).mp h
  exact (List.subperm_of_subset hnd hm).perm_of_length_le (by omega)

theorem keySetEq_symm {a b : List Key} (h : keySetEq a b = true) (hnd : a.Nodup) : keySetEq b a = true := by
  have hp := keys_perm h hnd
  rw [keySetEq_iff] at *
  exact ⟨h.1.symm, fun k hk => hp.mem_iff.mpr hk⟩

theorem keySetEq_of_perm {l₁ l₂ : List Key} (hp : l₁.Perm l₂) : keySetEq l₁ l₂ = true :=
  (keySetEq_iff _ _).mpr ⟨hp.length_eq, fun _ => hp.mem_iff.mp⟩

/-- node-level part of `prefixB` (everything but the children) -/
def NInfo.preC (i j : NInfo) : Bool :=
  i.data.isSome == j.data.isSome && i.custom == j.custom &&
  (match i.kind with
   | .none | .tuple | .list | .deque => i.kind == j.kind
   | .dict | .ordereddict | .defaultdict => j.kind.isDict && keySetEq i.keys j.keys
   | .namedtuple | .structseq | .custom => i.kind == j.kind && (!i.data.isSome || i.data == j.data)
   | .leaf => false)

/-- node-level part of `lub` -/
def NInfo.lubC (i j : NInfo) : Bool :=
  match i.kind with
  | .leaf => false
  | .none => j.kind == .none
  | .tuple | .list | .deque => i.kind == j.kind
  | .dict | .ordereddict | .defaultdict => j.kind.isDict && keySetEq i.keys j.keys
  | .namedtuple | .structseq => i.kind == j.kind && i.data == j.data
  | .custom =>
      match i.custom, j.custom with
      | some r, some r' => j.kind == .custom && r.cls == r'.cls && r.clsKind == r'.clsKind && i.data == j.data
      | _, _ => false

/-- the payload fits the kind (as in every node `flatten` or a constructor builds) -/
def NInfo.fits (i : NInfo) : Bool :=
  match i.kind with
  | .leaf => false
  | .none | .tuple | .list => !i.data.isSome && i.custom.isNone
  | .dict | .ordereddict | .defaultdict | .deque | .namedtuple | .structseq =>
      i.data.isSome && i.custom.isNone
  | .custom => i.data.isSome && i.custom.isSome

/-- the kinds whose `node_data` is compared by `is_prefix` / `broadcast_to_common_suffix` -/
def Kind.cmpData : Kind → Bool
  | .namedtuple | .structseq | .custom => true
  | _ => false

/-- the kinds that carry `node_data` at all -/
def Kind.hasData : Kind → Bool
  | .leaf | .none | .tuple | .list => false
  | _ => true

theorem Kind.isDict_hasData {k : Kind} (h : k.isDict = true) : k.hasData = true := by
  cases k <;> first | rfl | cases h

theorem Kind.cmpData_hasData {k : Kind} (h : k.cmpData = true) : k.hasData = true := by
  cases k <;> first | rfl | cases h

theorem Kind.isDict_ne_custom {k : Kind} (h : k.isDict = true) : k ≠ .custom := by
  rintro rfl; cases h

theorem NInfo.preC_iff (i j : NInfo) : i.preC j = true ↔
    i.data.isSome = j.data.isSome ∧ i.custom = j.custom ∧ i.kind ≠ .leaf ∧
      if i.kind.isDict then j.kind.isDict = true ∧ keySetEq i.keys j.keys = true
      else i.kind = j.kind ∧ (i.kind.cmpData = true → i.data.isSome = false ∨ i.data = j.data) := by
  unfold NInfo.preC
  cases i.kind <;>
    simp only [Kind.isDict, Kind.cmpData, Bool.and_eq_true, Bool.or_eq_true, beq_iff_eq, Bool.not_eq_eq_eq_not,
      Bool.not_true, and_assoc, ne_eq, reduceCtorEq, not_false_eq_true, not_true_eq_false, Bool.false_eq_true,
      Bool.and_false, ↓reduceIte, false_implies, forall_const, and_true, true_and, false_and, and_false]

theorem NInfo.lubC_iff (i j : NInfo) : i.lubC j = true ↔
    i.kind ≠ .leaf ∧
      if i.kind.isDict then j.kind.isDict = true ∧ keySetEq i.keys j.keys = true
      else i.kind = j.kind ∧ (i.kind.cmpData = true → i.data = j.data) ∧
        (i.kind = .custom → ∃ r r', i.custom = some r ∧ j.custom = some r' ∧ r.cls = r'.cls ∧
          r.clsKind = r'.clsKind) := by
  unfold NInfo.lubC
  cases hk : i.kind <;>
    simp only [Kind.isDict, Kind.cmpData, Bool.and_eq_true, beq_iff_eq, ne_eq, reduceCtorEq, not_false_eq_true,
      not_true_eq_false, Bool.false_eq_true, ↓reduceIte, false_implies, forall_const, and_true, true_and, false_and,
      and_self]
  · -- `custom`: both registrations are there and agree on the class
    cases i.custom <;> cases j.custom <;>
      simp only [Bool.false_eq_true, reduceCtorEq, Option.some.injEq, false_and, exists_const, and_false,
        Bool.and_eq_true, beq_iff_eq]
    exact ⟨fun ⟨⟨⟨a, b⟩, c⟩, d⟩ => ⟨a.symm, d, _, _, rfl, rfl, b, c⟩,
      fun ⟨a, d, _, _, e, e', b, c⟩ => ⟨⟨⟨a.symm, e ▸ e' ▸ b⟩, e ▸ e' ▸ c⟩, d⟩⟩
  · -- `None`
    exact eq_comm

theorem NInfo.fits_iff (i : NInfo) : i.fits = true ↔
    i.kind ≠ .leaf ∧ i.data.isSome = i.kind.hasData ∧ (i.custom.isSome = true ↔ i.kind = .custom) := by
  unfold NInfo.fits
  cases i.kind <;> simp [Kind.hasData]

theorem NInfo.preC_isDict {i j : NInfo} (h : i.preC j = true) : j.kind.isDict = i.kind.isDict := by
  obtain ⟨-, -, -, h⟩ := (NInfo.preC_iff i j).mp h
  split at h
  · rename_i hd; rw [hd, h.1]
  · rw [h.1]

theorem NInfo.lubC_isDict {i j : NInfo} (h : i.lubC j = true) : j.kind.isDict = i.kind.isDict := by
  obtain ⟨-, h⟩ := (NInfo.lubC_iff i j).mp h
  split at h
  · rename_i hd; rw [hd, h.1]
  · rw [h.1]

theorem NInfo.preC_ne_leaf {i j : NInfo} (h : i.preC j = true) : j.kind ≠ .leaf := by
  obtain ⟨-, -, hl, h⟩ := (NInfo.preC_iff i j).mp h
  split at h
  · intro e; rw [e] at h; cases h.1
  · exact h.1 ▸ hl

theorem NInfo.preC_keys {i j : NInfo} (h : i.preC j = true) (hid : i.kind.isDict = true) :
    keySetEq i.keys j.keys = true := by
  obtain ⟨-, -, -, h⟩ := (NInfo.preC_iff i j).mp h
  rw [if_pos hid] at h; exact h.2

theorem NInfo.lubC_keys {i j : NInfo} (h : i.lubC j = true) (hid : i.kind.isDict = true) :
    keySetEq i.keys j.keys = true := by
  obtain ⟨-, h⟩ := (NInfo.lubC_iff i j).mp h
  rw [if_pos hid] at h; exact h.2

theorem NInfo.preC_refl {i : NInfo} (h : i.kind ≠ .leaf) : i.preC i = true := by
  rw [NInfo.preC_iff]
  refine ⟨rfl, rfl, h, ?_⟩
  split
  · rename_i hd; exact ⟨hd, keySetEq_refl _⟩
  · exact ⟨rfl, fun _ => Or.inr rfl⟩

theorem NInfo.preC_trans {i j k : NInfo} (h1 : i.preC j = true) (h2 : j.preC k = true) : i.preC k = true := by
  have hd := NInfo.preC_isDict h1
  rw [NInfo.preC_iff] at h1 h2 ⊢
  obtain ⟨s1, c1, l1, h1⟩ := h1
  obtain ⟨s2, c2, -, h2⟩ := h2
  refine ⟨s1.trans s2, c1.trans c2, l1, ?_⟩
  rw [hd] at h2
  by_cases hi : i.kind.isDict = true
  · rw [if_pos hi] at h1 h2 ⊢
    exact ⟨h2.1, keySetEq_trans h1.2 h2.2⟩
  · rw [if_neg hi] at h1 h2 ⊢
    refine ⟨h1.1.trans h2.1, fun hc => ?_⟩
    rcases h1.2 hc with e | e
    · exact Or.inl e
    · rcases h2.2 (h1.1 ▸ hc) with e' | e'
      · exact Or.inl (s1.trans e')
      · exact Or.inr (e.trans e')

theorem NInfo.preC_symm {i j : NInfo} (hn : i.kind.isDict = true → i.keys.Nodup) (h : i.preC j = true) :
    j.preC i = true := by
  have hd := NInfo.preC_isDict h
  rw [NInfo.preC_iff] at h ⊢
  obtain ⟨s, c, l, h⟩ := h
  rw [hd]
  by_cases hi : i.kind.isDict = true
  · rw [if_pos hi] at h ⊢
    exact ⟨s.symm, c.symm, (fun e => by rw [e] at h; cases h.1), hi, keySetEq_symm h.2 (hn hi)⟩
  · rw [if_neg hi] at h ⊢
    refine ⟨s.symm, c.symm, h.1 ▸ l, h.1.symm, fun hc => ?_⟩
    rcases h.2 (h.1 ▸ hc) with e | e
    · exact Or.inl (s ▸ e)
    · exact Or.inr e.symm

/-- apart from the dict kinds: the same kind, and the same payload where `is_prefix` compares it (a record that fits
its kind has a payload there, so the "no payload" alternative of `preC` is out) -/
theorem NInfo.preC_nondict {i j : NInfo} (fi : i.fits = true) (h : i.preC j = true) (hd : i.kind.isDict = false) :
    i.kind = j.kind ∧ (i.kind.cmpData = true → i.data = j.data) := by
  obtain ⟨-, -, -, h⟩ := (NInfo.preC_iff i j).mp h
  rw [if_neg (by rw [hd]; nofun)] at h
  refine ⟨h.1, fun hc => (h.2 hc).resolve_left ?_⟩
  rw [((NInfo.fits_iff i).mp fi).2.1, Kind.cmpData_hasData hc]; nofun

theorem NInfo.lubC_of_preC {i j : NInfo} (fi : i.fits = true) (h : i.preC j = true) : i.lubC j = true := by
  rw [NInfo.lubC_iff]
  obtain ⟨-, c, l, h'⟩ := (NInfo.preC_iff i j).mp h
  refine ⟨l, ?_⟩
  by_cases hi : i.kind.isDict = true
  · rw [if_pos hi] at h' ⊢; exact h'
  · rw [if_neg hi]
    obtain ⟨hk, hdat⟩ := NInfo.preC_nondict fi h (Bool.not_eq_true _ ▸ hi)
    refine ⟨hk, hdat, fun hc => ?_⟩
    obtain ⟨r, hr⟩ := Option.isSome_iff_exists.mp (((NInfo.fits_iff i).mp fi).2.2.mpr hc)
    exact ⟨r, r, hr, c ▸ hr, rfl, rfl⟩

theorem NInfo.custom_none {i : NInfo} (fi : i.fits = true) (h : i.kind ≠ .custom) : i.custom = Option.none := by
  cases hc : i.custom with
  | none => rfl
  | some r => exact absurd (((NInfo.fits_iff i).mp fi).2.2.mp (by simp [hc])) h

theorem NInfo.preC_of_fits {i j : NInfo} (fi : i.fits = true) (fj : j.fits = true) (hk : i.kind = j.kind)
    (hd : i.kind.isDict = false) (hdata : i.kind.cmpData = true → i.data = j.data)
    (hc : i.kind = .custom → i.custom = j.custom) : i.preC j = true := by
  obtain ⟨hl, fdi, -⟩ := (NInfo.fits_iff i).mp fi
  obtain ⟨-, fdj, -⟩ := (NInfo.fits_iff j).mp fj
  rw [NInfo.preC_iff, hd]
  refine ⟨by rw [fdi, fdj, hk], ?_, hl, hk, fun h => .inr (hdata h)⟩
  by_cases h : i.kind = .custom
  · exact hc h
  · rw [NInfo.custom_none fi h, NInfo.custom_none fj (hk ▸ h)]

theorem NInfo.preC_of_fits_dict {i j : NInfo} (fi : i.fits = true) (fj : j.fits = true)
    (hi : i.kind.isDict = true) (hj : j.kind.isDict = true) (hks : keySetEq i.keys j.keys = true) :
    i.preC j = true := by
  obtain ⟨hl, fdi, -⟩ := (NInfo.fits_iff i).mp fi
  obtain ⟨-, fdj, -⟩ := (NInfo.fits_iff j).mp fj
  rw [NInfo.preC_iff, hi]
  refine ⟨by rw [fdi, fdj, Kind.isDict_hasData hi, Kind.isDict_hasData hj], ?_, hl, hj, hks⟩
  rw [NInfo.custom_none fi (Kind.isDict_ne_custom hi), NInfo.custom_none fj (Kind.isDict_ne_custom hj)]

/-- Between records that fit their kinds, what `broadcast_to_common_suffix` accepts `is_prefix` accepts too, given
`hreg`: one registration record per class (`lubC` compares the classes of two custom nodes, `preC` their
registration records). -/
theorem NInfo.preC_of_lubC {i j : NInfo} (fi : i.fits = true) (fj : j.fits = true)
    (hreg : ∀ r r', i.custom = some r → j.custom = some r' → r.cls = r'.cls → r.clsKind = r'.clsKind → r = r')
    (h : i.lubC j = true) : i.preC j = true := by
  have hd := NInfo.lubC_isDict h
  rw [NInfo.lubC_iff] at h
  obtain ⟨-, h⟩ := h
  by_cases hi : i.kind.isDict = true
  · rw [if_pos hi] at h
    exact preC_of_fits_dict fi fj hi (hd.trans hi) h.2
  · rw [if_neg hi] at h
    obtain ⟨hk, hdat, hcus⟩ := h
    refine preC_of_fits fi fj hk (by simpa using hi) hdat fun hc => ?_
    obtain ⟨r, r', hr, hr', e1, e2⟩ := hcus hc
    rw [hr, hr', hreg r r' hr hr' e1 e2]

end Optree
