/-
  Replacement leaves (third clause of C01): unflattening a treespec with *any* list of leaf-typed
  objects of the right length builds a tree that flattens back to exactly those objects and the same
  node array.  In parallel with `Lemmas/Roundtrip.lean`: the machine run over the records of `t` with new
  leaves pushes a tree `t'` that looks like `t` one level down (`rebuild_view`), so `flattenGo` of `t'`
  reproduces the records with the new leaves.  The sequencing step (`seqOuts_withLeaves`) leaves open what is
  known of the objects pushed; `Lemmas/GraftBuild.lean` uses it with trees in place of the leaves.
-/
import OptreeModel.Lemmas.Roundtrip

namespace Optree

/-- `x` is leaf-typed under `cfg`: wherever the depth limit allows, flattening it yields itself as the
only leaf (an opaque object, `None` when `none_is_leaf`, an instance of an unregistered class, or
anything the `is_leaf` predicate accepts) -/
def LeafObj (cfg : Cfg) (x : PyObj) : Prop :=
  ∀ s d, ¬ (d > cfg.maxDepth) → flattenGo cfg s d x = .ok (leafOut x)

/-- the `is_leaf` predicate returns `False`, without raising, on every object that is a node by its type (it
decides among leaf-typed objects only): the documented contract under which a rebuilt tree flattens like the
original -/
def PredOnLeaves (cfg : Cfg) : Prop :=
  ∀ x, (getKind cfg x).1 ≠ .leaf → cfg.evalPred x = .ok false

theorem predOnLeaves_of_none (cfg : Cfg) (h : cfg.pred = Option.none) : PredOnLeaves cfg := by
  intro x _
  simp [Cfg.evalPred, h]

def withLeaves (out : FlatOut) (ls : List PyObj) : FlatOut := ⟨ls, out.nodes, out.custom⟩

theorem withLeaves_append (a b : FlatOut) (l1 l2 : List PyObj) :
    withLeaves (a.append b) (l1 ++ l2) = (withLeaves a l1).append (withLeaves b l2) := rfl

theorem withLeaves_close (body : FlatOut) (ls : List PyObj) (hl : ls.length = body.leaves.length)
    (kind : Kind) (arity : Nat) (data : NodeData) (entries : Option (List Key)) (custom : Option Reg)
    (okeys : Option (List Key)) (fc : Bool) :
    withLeaves (body.close kind arity data entries custom okeys fc) ls =
      (withLeaves body ls).close kind arity data entries custom okeys fc := by
  simp [withLeaves, FlatOut.close, hl]

theorem flattenGo_prelude_mk (cfg : Cfg) (d : Nat) (x : PyObj) (body : Except Err FlatOut)
    (hd : ¬ (d > cfg.maxDepth)) (hp : cfg.evalPred x = .ok false) :
    (if d > cfg.maxDepth then Except.error Err.recursion
      else match cfg.evalPred x with
        | .error e => .error e
        | .ok true => .ok (leafOut x)
        | .ok false => body) = body := by
  simp [hd, hp]

def Robj (cfg : Cfg) (s : Bool) (t : PyObj) : Prop :=
  ∀ d out, flattenGo cfg s d t = .ok out → ∀ ls' : List PyObj, ls'.length = out.leaves.length →
    (∀ x ∈ ls', LeafObj cfg x) →
    ∃ t', RT (withLeaves out ls') [t'] ∧ flattenGo cfg s d t' = .ok (withLeaves out ls')

/-- If the records of each child, run with any `xs` (all in `L`) in place of its leaves, push one object that
satisfies `Post`, then the records of all children in sequence push as many objects `ts'`, and `Q`, built from
`Post` child by child (`nil`, `cons`), holds of them: `xs` is cut up along the children's leaf counts. -/
theorem seqOuts_withLeaves {f : PyObj → Except Err FlatOut} {L : PyObj → Prop}
    {Post : PyObj → FlatOut → List PyObj → PyObj → Prop}
    {Q : List PyObj → FlatOut → List PyObj → List PyObj → Prop}
    (nil : Q [] FlatOut.empty [] [])
    (cons : ∀ c cs a b xs ys t' ts', xs.length = a.leaves.length → Post c a xs t' → Q cs b ys ts' →
      Q (c :: cs) (a.append b) (xs ++ ys) (t' :: ts'))
    {cs : List PyObj} {b : FlatOut}
    (ih : ∀ c ∈ cs, ∀ o, f c = .ok o → ∀ xs : List PyObj, xs.length = o.leaves.length → (∀ x ∈ xs, L x) →
      ∃ t', RT (withLeaves o xs) [t'] ∧ Post c o xs t')
    (hb : seqOuts (cs.map f) = .ok b) (xs : List PyObj) (hl : xs.length = b.leaves.length)
    (hL : ∀ x ∈ xs, L x) :
    ∃ ts', ts'.length = cs.length ∧ RT (withLeaves b xs) ts' ∧ Q cs b xs ts' := by
  revert xs
  refine seqOuts_induct (Q := fun cs b => ∀ xs : List PyObj, xs.length = b.leaves.length → (∀ x ∈ xs, L x) →
    ∃ ts', ts'.length = cs.length ∧ RT (withLeaves b xs) ts' ∧ Q cs b xs ts') ?_ ?_ ih hb
  · intro xs hl _
    cases List.eq_nil_of_length_eq_zero hl
    exact ⟨[], rfl, RT_empty, nil⟩
  · intro c cs a b hc hcs xs hl hL
    have hl : xs.length = a.leaves.length + b.leaves.length := hl.trans List.length_append
    have l1 : (xs.take a.leaves.length).length = a.leaves.length :=
      List.length_take_of_le (hl ▸ Nat.le_add_right ..)
    have l2 : (xs.drop a.leaves.length).length = b.leaves.length := by
      rw [List.length_drop, hl, Nat.add_sub_cancel_left]
    obtain ⟨t', rt1, p1⟩ := hc _ l1 fun x hx => hL x (List.mem_of_mem_take hx)
    obtain ⟨ts', len, rt2, p2⟩ := hcs (xs.drop a.leaves.length) l2 fun x hx => hL x (List.mem_of_mem_drop hx)
    have rt := RT_append rt1 rt2
    have q := cons c cs a b _ _ t' ts' l1 p1 p2
    rw [← withLeaves_append, List.take_append_drop] at rt
    rw [List.take_append_drop] at q
    exact ⟨t' :: ts', by simp [len], rt, q⟩

theorem RT_close_withLeaves {b : FlatOut} {xs ts' : List PyObj} (rt : RT (withLeaves b xs) ts')
    (hl : xs.length = b.leaves.length) {n : Nat} (len : ts'.length = n)
    (kind : Kind) (data : NodeData) (entries : Option (List Key)) (custom : Option Reg)
    (okeys : Option (List Key)) (fc : Bool) (t' : PyObj)
    (hmk : ∀ nl nn, makeNode (Node.mk kind n data entries custom nl nn okeys) ts' = .ok t') :
    RT (withLeaves (b.close kind n data entries custom okeys fc) xs) [t'] := by
  subst len
  rw [withLeaves_close b xs hl]
  exact RT_close rt kind data entries custom okeys fc t' (hmk _ _)

/-- the items of `kvs` with the values replaced: the value of the key visited i-th (in the order
`perm`) becomes `ts'[i]` -/
def reval (perm : List (Key × PyObj)) (ts' : List PyObj) (p : Key × PyObj) : Key × PyObj :=
  (p.1, (lookupKey p.1 ((perm.map (·.1)).zip ts')).getD PyObj.none)

theorem reval_perm_keys (perm : List (Key × PyObj)) (ts' : List PyObj) (l : List (Key × PyObj)) :
    (l.map (reval perm ts')).map (·.1) = l.map (·.1) := by
  simp [List.map_map, Function.comp_def, reval]

theorem reval_perm_vals (perm : List (Key × PyObj)) (ts' : List PyObj)
    (hnd : (perm.map (·.1)).Nodup) (hl : ts'.length = perm.length) :
    (perm.map (reval perm ts')).map (·.2) = ts' := by
  have := lookupKey_zip_self PyObj.none (perm.map (·.1)) ts' hnd (by simpa using hl)
  simpa [List.map_map, Function.comp_def, reval] using this

/-- Rebuilding a dict-kind node from new children.  `hok`: a dict or defaultdict is seeded with its original
keys, an OrderedDict (`od`) is filled in the order visited.  Either way `dictBuild` gives the original items with
the values replaced, and sorting those visits the keys in the old order and meets exactly the new children. -/
theorem dict_rebuild (od s : Bool) (kvs : List (Key × PyObj)) (hnd : (kvs.map (·.1)).Nodup)
    (okeys : Option (List Key)) (hok : okeys = some (kvs.map (·.1)) ∨ (okeys = Option.none ∧ od = true))
    (ts' : List PyObj) (hl : ts'.length = kvs.length) :
    let perm := dictOrder od s kvs
    let kvs' := kvs.map (reval perm ts')
    dictBuild okeys (perm.map (·.1)) ts' = kvs' ∧ kvs'.map (·.1) = kvs.map (·.1) ∧
      (dictOrder od s kvs').map (·.1) = perm.map (·.1) ∧ (dictOrder od s kvs').map (·.2) = ts' := by
  intro perm kvs'
  have hperm : perm.Perm kvs := dictOrder_perm od s kvs
  have hpn : (perm.map (·.1)).Nodup := (hperm.map (·.1)).nodup_iff.mpr hnd
  have hpl : ts'.length = perm.length := by rw [hperm.length_eq]; exact hl
  have hord : dictOrder od s kvs' = perm.map (reval perm ts') :=
    dictOrder_map od s (reval perm ts') (fun _ => rfl) kvs
  have hk : kvs'.map (·.1) = kvs.map (·.1) := reval_perm_keys perm ts' kvs
  have hv : (perm.map (reval perm ts')).map (·.2) = ts' := reval_perm_vals perm ts' hpn hpl
  refine ⟨?_, hk, by rw [hord, reval_perm_keys], by rw [hord, hv]⟩
  rcases hok with hok | ⟨hok, hod⟩
  · subst hok
    have hp' : (perm.map (reval perm ts')).Perm kvs' := hperm.map _
    have := dictBuild_eq_of_perm kvs' (perm.map (reval perm ts')) hp' (by rw [hk]; exact hnd)
    rwa [hk, reval_perm_keys, hv] at this
  · subst hok
    have hpe : perm = kvs := by simp [perm, dictOrder, hod]
    rw [dictBuild_none_zip _ _ hpn (by simpa using hpl)]
    have h1 : kvs' = (kvs'.map (·.1)).zip (kvs'.map (·.2)) := by
      rw [List.zip_map', List.map_id'']; intro p; rfl
    rw [h1, hk]
    have : kvs'.map (·.2) = ts' := by
      have := hv
      rw [hpe] at this
      simpa [kvs', hpe] using this
    rw [this, hpe]

/-- Built-in nodes only; for instances of registered classes, `customUnflatten_view`. -/
theorem rebuild_view (cfg : Cfg) (s : Bool) (x : PyObj) (hwf : x.wf = true) :
    match x.view cfg s with
    | .node k data ok cs => ∀ ts : List PyObj, ts.length = cs.length →
        ∃ x', (∀ nl nn, makeNode ⟨k, cs.length, data, Option.none, Option.none, nl, nn, ok⟩ ts = .ok x') ∧
          x'.view cfg s = .node k data ok ts
    | _ => True := by
  cases x <;> simp only [PyObj.wf, Bool.and_eq_true, decide_eq_true_eq, beq_iff_eq] at hwf
  case leaf => trivial
  case none =>
    rw [PyObj.view]
    cases hn : cfg.noneIsLeaf
    · refine fun ts hl => ?_
      cases List.eq_nil_of_length_eq_zero hl
      exact ⟨.none, by simp [makeNode], by simp [PyObj.view, hn]⟩
    · trivial
  case tuple xs => exact fun ts hl => ⟨.tuple ts, by simp [makeNode, hl], rfl⟩
  case list xs => exact fun ts hl => ⟨.list ts, by simp [makeNode, hl], rfl⟩
  case deque m xs =>
    exact fun ts hl => ⟨.deque m ts, by simp [makeNode, hl, mkDeque_of_ok m ts (hl ▸ hwf.1)], rfl⟩
  case dict kvs =>
    refine fun ts hl => ?_
    rw [List.length_map, dictOrder_length] at hl
    obtain ⟨hb, hk, ho1, ho2⟩ := dict_rebuild false s kvs hwf.1 _ (.inl rfl) ts hl
    exact ⟨.dict (kvs.map (reval (dictOrder false s kvs) ts)),
      by simp [makeNode, hl, dictOrder_length, hb], by simp only [PyObj.view, hk, ho1, ho2]⟩
  case odict kvs =>
    refine fun ts hl => ?_
    rw [List.length_map] at hl
    obtain ⟨hb, hk, -, ho2⟩ := dict_rebuild true s kvs hwf.1 _ (.inr ⟨rfl, rfl⟩) ts hl
    simp only [dictOrder_od] at hb hk ho2
    exact ⟨.odict (kvs.map (reval kvs ts)), by simp [makeNode, hl, hb], by simp only [PyObj.view, hk, ho2]⟩
  case ddict f kvs =>
    refine fun ts hl => ?_
    rw [List.length_map, dictOrder_length] at hl
    obtain ⟨hb, hk, ho1, ho2⟩ := dict_rebuild false s kvs hwf.1 _ (.inl rfl) ts hl
    exact ⟨.ddict f (kvs.map (reval (dictOrder false s kvs) ts)),
      by simp [makeNode, hl, dictOrder_length, hb], by simp only [PyObj.view, hk, ho1, ho2]⟩
  case ntuple cls xs =>
    rw [PyObj.view]
    cases hl : cfg.reg.lookup cfg.ns 1 cls with
    | none => exact fun ts hlen => ⟨.ntuple cls ts, by simp [makeNode, hlen], by simp only [PyObj.view, hl]⟩
    | some reg => trivial
  case sseq cls xs =>
    rw [PyObj.view]
    cases hl : cfg.reg.lookup cfg.ns 2 cls with
    | none => exact fun ts hlen => ⟨.sseq cls ts, by simp [makeNode, hlen], by simp only [PyObj.view, hl]⟩
    | some reg => trivial
  case user cls md q xs => rw [PyObj.view]; cases cfg.reg.lookup cfg.ns 0 cls <;> trivial

/-- One node of the replacement argument: if every child can be rebuilt from replacement leaves so that it flattens to
them (`ih`), then so can the node closed over the children's results (`hout`) — there are rebuilt children `ts'` from
which `makeNode` builds the node on the machine (`RT`), and which flatten to the replaced output. -/
theorem R_closeSeq (cfg : Cfg) {f : PyObj → Except Err FlatOut} {cs : List PyObj}
    (ih : ∀ c ∈ cs, ∀ o, f c = .ok o → ∀ ls' : List PyObj, ls'.length = o.leaves.length →
      (∀ x ∈ ls', LeafObj cfg x) → ∃ t', RT (withLeaves o ls') [t'] ∧ f t' = .ok (withLeaves o ls'))
    (kind : Kind) (data : NodeData) (entries : Option (List Key)) (custom : Option Reg)
    (okeys : Option (List Key)) (fc : Bool) (out : FlatOut)
    (hout : (match seqOuts (cs.map f) with
             | .error e => Except.error e
             | .ok b => .ok (b.close kind cs.length data entries custom okeys fc)) = .ok out)
    (ls' : List PyObj) (hl : ls'.length = out.leaves.length) (hleaf : ∀ x ∈ ls', LeafObj cfg x) :
    ∃ ts', ts'.length = cs.length ∧
      (∀ t', (∀ nl nn, makeNode (Node.mk kind cs.length data entries custom nl nn okeys) ts' = .ok t') →
        RT (withLeaves out ls') [t']) ∧
      (match seqOuts (ts'.map f) with
       | .error e => Except.error e
       | .ok b => .ok (b.close kind cs.length data entries custom okeys fc)) = .ok (withLeaves out ls') := by
  obtain ⟨b, hb, rfl⟩ := seqClose_ok hout
  obtain ⟨ts', len, rt, fs⟩ := seqOuts_withLeaves
    (Post := fun _ o xs t' => f t' = .ok (withLeaves o xs))
    (Q := fun _ b xs ts' => seqOuts (ts'.map f) = .ok (withLeaves b xs))
    rfl (fun _ _ _ _ _ _ _ _ _ p1 p2 => by simp only [List.map_cons, seqOuts, p1, p2]; rfl)
    ih hb ls' hl hleaf
  exact ⟨ts', len, RT_close_withLeaves rt hl len kind data entries custom okeys fc,
    by rw [fs, withLeaves_close b ls' hl]⟩

theorem robj_leafOut (cfg : Cfg) (s : Bool) (d : Nat) (x : PyObj) (hd : ¬ (d > cfg.maxDepth))
    (ls' : List PyObj) (hl : ls'.length = (leafOut x).leaves.length) (hleaf : ∀ y ∈ ls', LeafObj cfg y) :
    ∃ t', RT (withLeaves (leafOut x) ls') [t'] ∧ flattenGo cfg s d t' = .ok (withLeaves (leafOut x) ls') := by
  match ls', hl, hleaf with
  | [y], _, hleaf => exact ⟨y, RT_leaf y, hleaf y (by simp) s d hd⟩
  | [], hl, _ => simp [leafOut] at hl
  | _ :: _ :: _, hl, _ => simp [leafOut] at hl

theorem withLeaves_nil (out : FlatOut) (h : out.leaves = []) : withLeaves out [] = out := by
  cases out; simp_all [withLeaves]

/-- Replacement leaves, at any subtree: run over the records `flattenGo` returned for a well-formed `t` with any
leaf-typed objects `ls'` in place of its leaves, `unflatten`'s machine pushes a tree that flattens back to the same
records with the leaves `ls'`.  `PredOnLeaves` keeps the predicate from firing on the rebuilt containers. -/
theorem robj (cfg : Cfg) (hreg : cfg.reg.OK) (hst : PredOnLeaves cfg) (s : Bool) (t : PyObj) :
    t.wf = true → Robj cfg s t := by
  induction t using PyObj.view_induct cfg s with | _ t ih
  intro hwf d out h ls' hl hleaf
  obtain ⟨hd, ⟨-, rfl⟩ | ⟨-, h⟩⟩ := flattenGo_ok h
  · exact robj_leafOut cfg s d t hd ls' hl hleaf
  have ih := fun c hc => ih c hc (PyObj.wf_kids cfg s hwf c hc) (d + 1)
  have hn := PyObj.view_plain cfg s t
  have hrb := rebuild_view cfg s t hwf
  cases hv : t.view cfg s <;> simp only [hv, View.kids] at h ih hn hrb
  case leaf => cases h; exact robj_leafOut cfg s d t hd ls' hl hleaf
  case node k data ok cs =>
    obtain ⟨ts', len, rt, fs⟩ := R_closeSeq cfg ih k data Option.none Option.none ok false out h ls' hl hleaf
    obtain ⟨t', hmk, hview⟩ := hrb ts' len
    refine ⟨t', rt t' hmk, ?_⟩
    rw [flattenGo_view, if_neg hd, hst t' (by rw [getKind_view cfg s, hview]; exact hn.ne_leaf)]
    simp only [hview]
    rw [len]
    exact fs
  case custom reg md q cs =>
    obtain rfl := PyObj.wf_quirk hwf hv
    rw [customFlatten_regEntries reg md cs _ (List.length_map _)] at h
    obtain ⟨ts', len, rt, fs⟩ := R_closeSeq cfg ih .custom (.md md) (customEntries reg cs.length) (some reg)
      Option.none true out h ls' hl hleaf
    have hview := (customUnflatten_view hreg hv).1 ts'
    refine ⟨customUnflatten reg md ts', rt _ (fun nl nn => by simp [makeNode, len]), ?_⟩
    rw [flattenGo_view, if_neg hd, hst _ (by rw [getKind_view cfg s, hview]; nofun)]
    simp only [hview]
    rw [customFlatten_regEntries reg md ts' _ (List.length_map _), len]
    exact fs

theorem rlist (cfg : Cfg) (hreg : cfg.reg.OK) (hst : PredOnLeaves cfg) (s : Bool) :
    ∀ xs : List PyObj, PyObj.wfList xs = true → ∀ x ∈ xs, Robj cfg s x :=
  fun _ h x hx => robj cfg hreg hst s x (PyObj.wfList_mem h x hx)

theorem rkvs (cfg : Cfg) (hreg : cfg.reg.OK) (hst : PredOnLeaves cfg) (s : Bool) :
    ∀ kvs : List (Key × PyObj), PyObj.wfKVs kvs = true → ∀ p ∈ kvs, Robj cfg s p.2 :=
  fun _ h p hp => robj cfg hreg hst s p.2 (PyObj.wfKVs_mem h p hp)

end Optree
