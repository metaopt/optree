/-
  `BroadcastToCommonSuffixImpl` on encodings computes the tree-level least common suffix `STree.lub`
  (refinement, for C09).  The C++ walks both arrays right to left with integer cursors, writes the
  merged nodes in *reverse* post-order and patches the counts of a node after each child.

  `SubAt` / `ForestAt` say where a sub-tree, or a run of children, sits under a cursor.  `broadcastGo_node` is the
  array-side twin of `STree.lub_nf` (LubOrder.lean); the refinement `bg_all` is read off the two.  The child loops
  take the children last to first, so their lemmas go by induction from the end of the child list
  (`List.snoc_induct`).
-/
import OptreeModel.Lemmas.LubOrder

namespace Optree

/-- the encoding of `s` occupies the positions ending at `p` -/
def SubAt (tr : List Node) (p : Int) (s : STree) : Prop :=
  ∃ pre post, tr = pre ++ s.enc ++ post ∧ p = ((pre.length + s.size : Nat) : Int) - 1

/-- the encodings of the forest `cs` (in order) occupy the positions ending at `q` (`q = -1 + start`
when the forest is empty) -/
def ForestAt (tr : List Node) (q : Int) (cs : List STree) : Prop :=
  ∃ pre post, tr = pre ++ STree.encL cs ++ post ∧ q = ((pre.length + STree.sizeL cs : Nat) : Int) - 1

theorem SubAt.pos_eq {pre : List Node} {s : STree} :
    ((pre.length + s.size : Nat) : Int) - 1 = ((pre.length + s.size - 1 : Nat) : Int) :=
  (Int.natCast_sub (Nat.add_pos_right _ (STree.size_pos s))).symm

theorem subAt_nodeAt {tr : List Node} {p : Int} {s : STree} (h : SubAt tr p s) :
    nodeAt tr p = .ok s.root := by
  obtain ⟨pre, post, rfl, rfl⟩ := h
  rw [SubAt.pos_eq, nodeAt, if_neg (Int.not_lt.mpr (Int.natCast_nonneg _)), Int.toNat_natCast, STree.getElem?_root]

theorem subAt_bound {tr : List Node} {p : Int} {s : STree} (h : SubAt tr p s) :
    ¬ (p + 1 < (s.size : Int)) := by
  obtain ⟨pre, post, rfl, rfl⟩ := h
  rw [Int.sub_add_cancel, Int.ofNat_lt]
  exact Nat.not_lt.mpr (Nat.le_add_left ..)

theorem subAt_copyRev {tr : List Node} {p : Int} {s : STree} (h : SubAt tr p s) :
    copyRev tr p s.size = s.renc := by
  obtain ⟨pre, post, rfl, rfl⟩ := h
  -- `p + 1` is the length of `pre ++ s.enc`: `copyRev` takes `pre ++ s.enc` off the array, then drops `pre`
  rw [SubAt.pos_eq, copyRev, Int.toNat_natCast, Nat.sub_add_cancel (Nat.add_pos_right _ (STree.size_pos s)),
    ← STree.enc_length s, ← List.length_append, List.take_left, List.length_append, Nat.add_sub_cancel,
    List.drop_left]
  rfl

theorem subAt_children {tr : List Node} {p : Int} {i : NInfo} {cs : List STree}
    (h : SubAt tr p (.node i cs)) : ForestAt tr (p - 1) cs := by
  obtain ⟨pre, post, rfl, rfl⟩ := h
  refine ⟨pre, i.toNode cs.length (STree.leavesL cs) (STree.sizeL cs + 1) :: post, ?_, ?_⟩
  · simp only [STree.enc, List.append_assoc, List.singleton_append]
  · rw [STree.size, ← Nat.add_assoc, Int.natCast_add, Int.natCast_one, Int.add_sub_cancel]

theorem forestAt_snoc {tr : List Node} {q : Int} {cs : List STree} {c : STree}
    (h : ForestAt tr q (cs ++ [c])) : SubAt tr q c ∧ ForestAt tr (q - c.size) cs := by
  obtain ⟨pre, post, rfl, rfl⟩ := h
  constructor
  · refine ⟨pre ++ STree.encL cs, post, ?_, ?_⟩
    · simp only [STree.encL_snoc, List.append_assoc]
    · rw [List.length_append, STree.encL_length, STree.sizeL_snoc, Nat.add_assoc]
  · refine ⟨pre, c.enc ++ post, ?_, ?_⟩
    · simp only [STree.encL_snoc, List.append_assoc]
    · rw [STree.sizeL_snoc, ← Nat.add_assoc, Int.natCast_add, Int.sub_sub, Int.add_comm 1, ← Int.sub_sub, Int.add_sub_cancel]

theorem subAt_whole (s : STree) : SubAt s.enc ((s.enc.length : Int) - 1) s :=
  ⟨[], [], by simp, by simp [STree.enc_length]⟩

def bump (nd : Node) (rc : List STree) : Node :=
  { nd with numNodes := nd.numNodes + STree.sizeL rc, numLeaves := nd.numLeaves + STree.leavesL rc }

theorem getElem?_at_length (O : List Node) (nd : Node) (Y : List Node) :
    (O ++ nd :: Y)[O.length]? = some nd := by
  simp

/-- what `broadcastGo` must return for the pair `(a, b)`: `ValueError` when `a.lub b` is undefined, otherwise the two
sizes walked, the counts of the merged shape, and the output with its reversed encoding appended -/
def goSpec (a b : STree) (out : List Node) : Except Err (BRes × List Node) :=
  match a.lub b with
  | Option.none => .error .value
  | some c => .ok (⟨a.size, b.size, c.size, c.leaves⟩, out ++ c.renc)

/-- the refinement at one `fuel` and one first operand `a`, wherever the two sub-trees sit: the induction predicate of
`bg_all` -/
def BG (fuel : Nat) (a : STree) : Prop :=
  a.wf = true → a.fitsT = true → ∀ b : STree, b.wf = true → b.fitsT = true →
    ∀ (tr : List Node) (pos : Int) (otr : List Node) (opos : Int) (out : List Node),
      SubAt tr pos a → SubAt otr opos b → broadcastGo fuel tr pos otr opos out = goSpec a b out

theorem bump_snoc (nd : Node) (c : STree) (rc : List STree) :
    bump { nd with numNodes := nd.numNodes + c.size, numLeaves := nd.numLeaves + c.leaves } rc =
      bump nd (rc ++ [c]) := by
  simp only [bump, STree.sizeL_append, STree.leavesL_append, STree.sizeL, STree.leavesL, Nat.add_zero]
  rw [Nat.add_assoc, Nat.add_assoc, Nat.add_comm c.size, Nat.add_comm c.leaves]

theorem broadcastChildren_enc (fuel : Nat) (hG : ∀ a : STree, a.size ≤ fuel → BG fuel a)
    (tr otr : List Node) (pos opos : Int) :
    ∀ (cs ds : List STree), STree.wfL cs = true → STree.fitsL cs = true → STree.wfL ds = true →
      STree.fitsL ds = true → cs.length = ds.length → STree.sizeL cs ≤ fuel →
    ∀ (cur ocur : Int) (O : List Node) (nd : Node) (X : List Node),
      ForestAt tr cur cs → ForestAt otr ocur ds →
      broadcastChildren fuel tr cur otr ocur cs.length (O ++ nd :: X) O.length pos opos =
        match STree.lubL cs ds with
        | Option.none => .error .value
        | some rc =>
            .ok (⟨pos - (cur - (STree.sizeL cs : Int)), opos - (ocur - (STree.sizeL ds : Int)),
                  (bump nd rc).numNodes, (bump nd rc).numLeaves⟩,
                 O ++ bump nd rc :: (X ++ STree.rencL rc)) := by
  intro cs
  induction cs using List.snoc_induct with
  | nil =>
    intro ds _ _ _ _ hlen _ cur ocur O nd X _ _
    obtain rfl := List.length_eq_zero_iff.mp hlen.symm
    simp only [List.length_nil, broadcastChildren, List.getElem?_append_right (Nat.le_refl _), Nat.sub_self,
      List.getElem?_cons_zero, STree.lubL, STree.sizeL, bump, STree.leavesL, Nat.add_zero, Int.natCast_zero,
      Int.sub_zero, STree.rencL_nil, List.append_nil]
  | snoc cs c ih =>
    intro ds' hwa hfa hwb hfb hlen hsz cur ocur O nd X hfa' hfb'
    rw [List.length_append, List.length_singleton] at hlen
    obtain ⟨ds, d, rfl⟩ := List.exists_snoc_of_length_eq_add_one hlen.symm
    rw [List.length_append, List.length_singleton, Nat.add_right_cancel_iff] at hlen
    rw [STree.wfL_snoc] at hwa hwb
    rw [STree.fitsL_snoc] at hfa hfb
    rw [STree.sizeL_snoc] at hsz
    obtain ⟨hc, hcs⟩ := forestAt_snoc hfa'
    obtain ⟨hd, hds⟩ := forestAt_snoc hfb'
    -- the last pair is merged first (`hG`); the loop goes on (`ih`) with the patched record and `x.renc` appended
    rw [List.length_append, List.length_singleton, broadcastChildren,
      hG c (Nat.le_trans (Nat.le_add_left _ _) hsz) hwa.2 hfa.2 d hwb.2 hfb.2 tr cur otr ocur _ hc hd, goSpec,
      STree.lubL_snoc cs ds c d hlen]
    cases c.lub d with
    | none => rfl
    | some x =>
      dsimp only
      rw [List.append_assoc, List.cons_append, modify_at_length,
        ih ds hwa.1 hfa.1 hwb.1 hfb.1 hlen (Nat.le_trans (Nat.le_add_right _ _) hsz)
          (cur - (c.size : Int)) (ocur - (d.size : Int)) O _ (X ++ x.renc) hcs hds]
      cases STree.lubL cs ds with
      | none => rfl
      | some rc =>
        simp only [Option.bind_some, Option.map_some, bump_snoc, STree.rencL_snoc, List.append_assoc, STree.sizeL_snoc,
          Int.natCast_add, Int.sub_sub, Int.add_comm (c.size : Int), Int.add_comm (d.size : Int)]

/-- the cursor table of a forest: one position per child (child 0 first), each the end of that child's array -/
theorem childCursors_forest (otr : List Node) : ∀ (ds : List STree) (q : Int) (acc : List Pos), ForestAt otr q ds →
    ∃ curs : List Pos, childCursors otr ds.length q acc = .ok (curs ++ acc, q - (STree.sizeL ds : Int)) ∧
      curs.length = ds.length ∧
      ∀ (j : Nat) (p : Int) (d : STree), curs[j]? = some p → ds[j]? = some d → SubAt otr p d := by
  intro ds
  induction ds using List.snoc_induct with
  | nil =>
    intro q acc _
    exact ⟨[], by simp only [List.length_nil, childCursors, List.nil_append, STree.sizeL, Int.natCast_zero, Int.sub_zero],
      rfl, fun j p d h => nomatch h⟩
  | snoc ds d ih =>
    intro q acc h
    obtain ⟨hd, hds⟩ := forestAt_snoc h
    obtain ⟨curs, h1, h2, h3⟩ := ih (q - (d.size : Int)) (q :: acc) hds
    refine ⟨curs ++ [q], ?_, by simp only [List.length_append, List.length_singleton, h2], fun j p d' hp hd' => ?_⟩
    · simp only [List.length_append, List.length_singleton, childCursors, subAt_nodeAt hd, STree.root_numNodes, h1,
        List.append_assoc, List.singleton_append, STree.sizeL_snoc, Int.natCast_add, Int.sub_sub,
        Int.add_comm (d.size : Int)]
    · rw [List.getElem?_append, h2] at hp
      rw [List.getElem?_append] at hd'
      by_cases hj : j < ds.length
      · rw [if_pos hj] at hp hd'
        exact h3 j p d' hp hd'
      · -- the last cursor, the last child
        rw [if_neg hj] at hp hd'
        generalize j - ds.length = n at hp hd'
        cases n with
        | zero => cases hp; cases hd'; exact hd
        | succ n => cases hp

/-- the dict child loop: the other cursor jumps to the child with the same key -/
theorem broadcastDictChildren_enc (fuel : Nat) (hG : ∀ a : STree, a.size ≤ fuel → BG fuel a)
    (tr otr : List Node) (pos : Int) (ow : Int) (okeys : List Key) (ds : List STree) (curs : List Int)
    (hkd : okeys.length = ds.length) (hwd : STree.wfL ds = true) (hfd : STree.fitsL ds = true)
    (hcurs : ∀ (j : Nat) (p : Int) (d : STree), curs[j]? = some p → ds[j]? = some d → SubAt otr p d)
    (hcl : curs.length = ds.length) :
    ∀ (cs : List STree) (ks : List Key), STree.wfL cs = true → STree.fitsL cs = true →
      ks.length = cs.length → (∀ k ∈ ks, k ∈ okeys) → STree.sizeL cs ≤ fuel →
    ∀ (cur : Int) (O : List Node) (nd : Node) (X : List Node), ForestAt tr cur cs →
      broadcastDictChildren fuel tr cur otr curs ks.reverse okeys (O ++ nd :: X) O.length pos ow =
        match STree.lubL cs (pickD ks okeys ds) with
        | Option.none => .error .value
        | some rc =>
            .ok (⟨pos - (cur - (STree.sizeL cs : Int)), ow, (bump nd rc).numNodes, (bump nd rc).numLeaves⟩,
                 O ++ bump nd rc :: (X ++ STree.rencL rc)) := by
  intro cs
  induction cs using List.snoc_induct with
  | nil =>
    intro ks _ _ hlen _ _ cur O nd X _
    obtain rfl := List.length_eq_zero_iff.mp hlen
    simp only [List.reverse_nil, broadcastDictChildren, List.getElem?_append_right (Nat.le_refl _), Nat.sub_self,
      List.getElem?_cons_zero, pickD, List.filterMap_nil, STree.lubL, STree.sizeL, bump, STree.leavesL, Nat.add_zero,
      Int.natCast_zero, Int.sub_zero, STree.rencL_nil, List.append_nil]
  | snoc cs c ih =>
    intro ks' hwa hfa hlen hmem hsz cur O nd X hfa'
    rw [List.length_append, List.length_singleton] at hlen
    obtain ⟨ks, k, rfl⟩ := List.exists_snoc_of_length_eq_add_one hlen
    rw [List.length_append, List.length_singleton, Nat.add_right_cancel_iff] at hlen
    rw [STree.wfL_snoc] at hwa
    rw [STree.fitsL_snoc] at hfa
    rw [List.forall_mem_append, List.forall_mem_singleton] at hmem
    rw [STree.sizeL_snoc] at hsz
    obtain ⟨hc, hcs⟩ := forestAt_snoc hfa'
    obtain ⟨j, d, hj, hd, hlook⟩ := lookupChild_of_mem hkd hmem.2
    obtain ⟨p, hp⟩ : ∃ p, curs[j]? = some p :=
      ⟨_, List.getElem?_eq_getElem (hcl ▸ (List.getElem?_eq_some_iff.mp hd).1)⟩
    have hdm := List.mem_of_getElem? hd
    have hgo := hG c (Nat.le_trans (Nat.le_add_left _ _) hsz) hwa.2 hfa.2 d ((STree.wfL_iff ds).mp hwd _ hdm)
      ((STree.fitsL_iff ds).mp hfd _ hdm) tr cur otr p (O ++ nd :: X) hc (hcurs j p d hp hd)
    rw [pickD_snoc ks k okeys ds _ hlook,
      STree.lubL_snoc cs _ c d (hlen.symm.trans (pickD_length ks okeys ds hkd hmem.1).symm)]
    simp only [List.reverse_append, List.reverse_singleton, List.singleton_append, broadcastDictChildren, hj, hp, hgo,
      goSpec]
    cases c.lub d with
    | none => rfl
    | some x =>
      dsimp only
      rw [List.append_assoc, List.cons_append, modify_at_length,
        ih ks hwa.1 hfa.1 hlen hmem.1 (Nat.le_trans (Nat.le_add_right _ _) hsz) (cur - (c.size : Int)) O _
          (X ++ x.renc) hcs]
      cases STree.lubL cs (pickD ks okeys ds) with
      | none => rfl
      | some rc =>
        simp only [Option.bind_some, Option.map_some, bump_snoc, STree.rencL_snoc, List.append_assoc, STree.sizeL_snoc,
          Int.natCast_add, Int.sub_sub, Int.add_comm (c.size : Int)]

/-- the record under construction once the children loop has returned `rc`, and the output with it, are the root
record and the reversed encoding of the merged node -/
theorem node_result (i : NInfo) (rc : List STree) (out : List Node) (w ow : Int) :
    let nd := bump (i.toNode rc.length 0 1) rc
    ((⟨w, ow, nd.numNodes, nd.numLeaves⟩ : BRes), out ++ nd :: ([] ++ STree.rencL rc)) =
      (⟨w, ow, (STree.node i rc).size, (STree.node i rc).leaves⟩, out ++ (STree.node i rc).renc) := by
  simp only [STree.renc_node, bump, NInfo.toNode, STree.size, STree.leaves, List.nil_append, Nat.zero_add,
    Nat.add_comm 1]

/-! The rows of checks `BroadcastToCommonSuffixImpl` has for the classes of kinds, each read as one test (`dk`: the
kind is a dict kind).  Every row raises at its first failing check.  (With `Err` and not any error type: these
`match`es are unified with the model's, which takes matchers of the same arity.) -/

theorem checks_seq {α : Type} (ke ae dk lc : Bool) (e : Err) (x d : Except Err α) (h : dk = false) :
    (match (if (!ke) = true then Except.error e else if (!ae) = true then .error e else .ok () : Except Err Unit) with
      | .error e => .error e
      | .ok _ => x) =
      if dk = true then (if lc = true then d else .error e) else if (ke && ae) = true then x else .error e := by
  subst h
  cases ke
  · rfl
  cases ae <;> rfl

theorem checks_data {α : Type} (ke ae de dk lc : Bool) (e : Err) (x d : Except Err α) (h : dk = false) :
    (match (if (!ke) = true then Except.error e else if (!ae) = true then .error e else .ok () : Except Err Unit) with
      | .error e => .error e
      | .ok _ => if (!de) = true then .error e else x) =
      if dk = true then (if lc = true then d else .error e) else if (ke && de && ae) = true then x else .error e := by
  subst h
  cases ke
  · rfl
  cases ae <;> cases de <;> rfl

theorem checks_dict {α : Type} (od ks dk b : Bool) (e : Err) (x d : Except Err α) (h : dk = true) :
    (if (!od) = true then .error e else if (!ks) = true then .error e else d) =
      if dk = true then (if (od && ks) = true then d else .error e) else if b = true then x else .error e := by
  subst h
  cases od
  · rfl
  cases ks <;> rfl

theorem checks_custom {α : Type} (ke ke' ae de dk lc : Bool) (c c' : Option Reg) (x d : Except Err α)
    (h : dk = false) (hke : ke' = ke) (hc : c.isSome = true) (hc' : ke = true → c'.isSome = true) :
    (if (!ke) = true then .error .value
      else match (generalizing := false) c, c' with
        | some r, some r' =>
            if (!(r.cls == r'.cls) || !(r.clsKind == r'.clsKind)) = true then .error .value
            else if (!ae) = true then .error .value
            else if (!de) = true then .error .value
            else x
        | _, _ => .error .internal) =
      if dk = true then (if lc = true then d else .error .value)
      else if ((match (generalizing := false) c, c' with
          | some r, some r' => ke' && r.cls == r'.cls && r.clsKind == r'.clsKind && de
          | _, _ => false) && ae) = true then x
        else .error .value := by
  subst h hke
  cases c with
  | none => cases hc
  | some r =>
    cases ke'
    · cases c' <;> rfl
    cases c' with
    | none => cases hc' rfl
    | some r' =>
      -- the tests on the registrations sit under the `match`; it is reduced with `cond` for `if`, so that no
      -- `Decidable` instance keeps the old form
      simp only [← Bool.cond_eq_ite]
      cases (r.cls == r'.cls)
      · rfl
      cases (r.clsKind == r'.clsKind)
      · rfl
      cases ae <;> cases de <;> rfl

/-- `BroadcastToCommonSuffixImpl` at two internal records, the first not `None`: node compatibility (`lubC`),
then the children loop, by key for the dict kinds -/
theorem broadcastGo_node (fuel : Nat) (tr otr : List Node) (pos opos : Int) (out : List Node) (root oroot : Node)
    (h1 : nodeAt tr pos = .ok root) (h2 : nodeAt otr opos = .ok oroot)
    (hb : (decide (pos + 1 < (root.numNodes : Int)) || decide (opos + 1 < (oroot.numNodes : Int))) = false)
    (hk : root.kind ≠ .leaf) (hko : oroot.kind ≠ .leaf) (hn : root.kind ≠ .none)
    (hf : root.info.fits = true) (hfo : oroot.info.fits = true) :
    broadcastGo (fuel + 1) tr pos otr opos out =
      let node : Node := { root with numLeaves := 0, numNodes := 1 }
      if root.kind.isDict then
        if root.info.lubC oroot.info then
          match childCursors otr oroot.arity (opos - 1) [] with
          | .error e => .error e
          | .ok (ocurs, lastOther) =>
              broadcastDictChildren fuel tr (pos - 1) otr ocurs root.keys.reverse oroot.keys (out ++ [node])
                out.length pos (opos - lastOther)
        else .error .value
      else if root.info.lubC oroot.info && root.arity == oroot.arity then
        broadcastChildren fuel tr (pos - 1) otr (opos - 1) root.arity (out ++ [node]) out.length pos opos
      else .error .value := by
  rw [broadcastGo, h1, h2]
  dsimp only
  rw [hb, if_neg Bool.false_ne_true, if_neg (by simpa using hk), if_neg (by simpa using hko),
    if_neg (by simpa using hn)]
  rw [NInfo.lubC, Node.info_kind]
  -- per kind, the row of checks on the left is the one test on the right
  cases hkk : root.kind with
  | leaf => exact absurd hkk hk
  | none => exact absurd hkk hn
  | tuple | list | deque => exact checks_seq _ _ _ _ _ _ _ rfl
  | dict | ordereddict | defaultdict => exact checks_dict _ _ _ _ _ _ _ rfl
  | namedtuple | structseq => exact checks_data _ _ _ _ _ _ _ _ rfl
  | custom =>
    -- both registrations are there (`fits`), or the other record is of another kind
    refine checks_custom _ _ _ _ _ _ _ _ _ _ rfl (Bool.beq_comm ..) (((NInfo.fits_iff _).mp hf).2.2.mpr hkk) fun h =>
      ((NInfo.fits_iff _).mp hfo).2.2.mpr (eq_of_beq h).symm

theorem broadcastGo_leaf_left (fuel : Nat) (tr otr : List Node) (pos opos : Int) (out : List Node) (root oroot : Node)
    (h1 : nodeAt tr pos = .ok root) (h2 : nodeAt otr opos = .ok oroot)
    (hb : (decide (pos + 1 < (root.numNodes : Int)) || decide (opos + 1 < (oroot.numNodes : Int))) = false)
    (hk : root.kind = .leaf) :
    broadcastGo (fuel + 1) tr pos otr opos out =
      .ok (⟨1, oroot.numNodes, oroot.numNodes, oroot.numLeaves⟩, out ++ copyRev otr opos oroot.numNodes) := by
  rw [broadcastGo, h1, h2]
  dsimp only
  rw [hb, if_neg Bool.false_ne_true, if_pos (beq_iff_eq.mpr hk)]

theorem broadcastGo_leaf_right (fuel : Nat) (tr otr : List Node) (pos opos : Int) (out : List Node) (root oroot : Node)
    (h1 : nodeAt tr pos = .ok root) (h2 : nodeAt otr opos = .ok oroot)
    (hb : (decide (pos + 1 < (root.numNodes : Int)) || decide (opos + 1 < (oroot.numNodes : Int))) = false)
    (hk : root.kind ≠ .leaf) (hko : oroot.kind = .leaf) :
    broadcastGo (fuel + 1) tr pos otr opos out =
      .ok (⟨root.numNodes, 1, root.numNodes, root.numLeaves⟩, out ++ copyRev tr pos root.numNodes) := by
  rw [broadcastGo, h1, h2]
  dsimp only
  rw [hb, if_neg Bool.false_ne_true, if_neg (mt beq_iff_eq.mp hk), if_pos (beq_iff_eq.mpr hko)]

theorem broadcastGo_none (fuel : Nat) (tr otr : List Node) (pos opos : Int) (out : List Node) (root oroot : Node)
    (h1 : nodeAt tr pos = .ok root) (h2 : nodeAt otr opos = .ok oroot)
    (hb : (decide (pos + 1 < (root.numNodes : Int)) || decide (opos + 1 < (oroot.numNodes : Int))) = false)
    (hk : root.kind = .none) (hko : oroot.kind ≠ .leaf) :
    broadcastGo (fuel + 1) tr pos otr opos out =
      if oroot.kind != .none then .error .value else .ok (⟨1, 1, root.numNodes, root.numLeaves⟩, out ++ [root]) := by
  rw [broadcastGo, h1, h2]
  dsimp only
  rw [hb, if_neg Bool.false_ne_true, if_neg (by rw [hk]; decide), if_neg (mt beq_iff_eq.mp hko),
    if_pos (beq_iff_eq.mpr hk)]

/-- **`BroadcastToCommonSuffixImpl` at any two sub-trees computes `lub`** once the fuel covers the first: it raises
`ValueError` exactly when the two shapes conflict, and otherwise writes the merged shape in reverse post-order and
reports its node and leaf counts.  By induction on the fuel; the child loops use the hypothesis for the children. -/
theorem bg_all : ∀ (fuel : Nat) (a : STree), a.size ≤ fuel → BG fuel a := by
  intro fuel
  induction fuel with
  | zero => exact fun a h => absurd (STree.size_pos a) (by omega)
  | succ f hG =>
      intro a h ha hfa b hb hfb tr pos otr opos out hsa hsb
      have hna := subAt_nodeAt hsa
      have hnb := subAt_nodeAt hsb
      have hnolt : (decide (pos + 1 < (a.root.numNodes : Int)) || decide (opos + 1 < (b.root.numNodes : Int))) =
          false := by
        simp [STree.root_numNodes, subAt_bound hsa, subAt_bound hsb]
      cases a with
      | leaf =>
        rw [broadcastGo_leaf_left f tr otr pos opos out _ _ hna hnb hnolt rfl, STree.root_numNodes,
          STree.root_numLeaves, subAt_copyRev hsb]
        rfl
      | node i cs =>
        obtain ⟨hnl, hnone, hdict, hwa⟩ := STree.wf_node ha
        obtain ⟨hfa1, hfa2⟩ : i.fits = true ∧ STree.fitsL cs = true := by simpa [STree.fitsT] using hfa
        cases b with
        | leaf =>
          rw [broadcastGo_leaf_right f tr otr pos opos out _ _ hna hnb hnolt hnl rfl, STree.root_numNodes,
            STree.root_numLeaves, subAt_copyRev hsa]
          rfl
        | node j ds =>
          obtain ⟨hnlb, hnoneb, hdictb, hwb⟩ := STree.wf_node hb
          obtain ⟨hfb1, hfb2⟩ : j.fits = true ∧ STree.fitsL ds = true := by simpa [STree.fitsT] using hfb
          by_cases hkn : i.kind = .none
          · -- `None` against `None`
            obtain rfl := hnone hkn
            rw [broadcastGo_none f tr otr pos opos out _ _ hna hnb hnolt hkn hnlb]
            by_cases hjn : j.kind = Kind.none
            · -- both nodes are childless: `lub` keeps the first, and the walk reports 1 and 1 walked and writes the
              -- first's record, which is all of its reversed encoding
              obtain rfl := hnoneb hjn
              simp [hjn, hkn, goSpec, STree.lub, STree.root, STree.size, STree.sizeL, STree.leaves, STree.leavesL,
                STree.renc, STree.enc, STree.encL, NInfo.toNode]
            · -- `None` against another kind: `ValueError` on both sides
              simp [hjn, hkn, goSpec, STree.lub, STree.root, NInfo.toNode]
          rw [broadcastGo_node f tr otr pos opos out _ _ hna hnb hnolt hnl hnlb hkn hfa1 hfb1, goSpec,
            STree.lub_nf i j cs ds ha hb]
          simp only [STree.root, NInfo.toNode_info, NInfo.toNode_keys, NInfo.toNode_kind, NInfo.toNode_arity]
          -- what the child loops report as walked, from the cursors they end at
          have hwalk : ∀ (p : Int) (xs : List STree), p - (p - 1 - (STree.sizeL xs : Int)) =
              ((STree.sizeL xs + 1 : Nat) : Int) := by
            intro p xs
            rw [Int.sub_sub, Int.sub_sub_self, Int.natCast_add, Int.natCast_one, Int.add_comm]
          simp only [STree.size, Nat.add_le_add_iff_right] at h
          have hfa' := subAt_children hsa
          have hfb' := subAt_children hsb
          by_cases hid : i.kind.isDict = true
          · -- dict kinds: the other's children are visited by key
            by_cases hC : i.lubC j = true
            case neg => simp [hid, hC]
            obtain ⟨hkl, -⟩ := hdict hid
            obtain ⟨hklb, -⟩ := hdictb ((NInfo.lubC_isDict hC).trans hid)
            obtain ⟨hkeq, hmem⟩ := (keySetEq_iff _ _).mp (NInfo.lubC_keys hC hid)
            have hl : cs.length = ds.length := by rw [← hkl, ← hklb, hkeq]
            obtain ⟨curs, hcc, hcl, hcurs⟩ := childCursors_forest otr ds (opos - 1) [] hfb'
            rw [List.append_nil] at hcc
            simp only [hid, hC, hl, beq_self_eq_true, Bool.and_self, if_true, hcc, alignC_dict ds hid]
            refine (broadcastDictChildren_enc f hG tr otr pos _ j.keys ds _ hklb hwb hfb2 hcurs hcl
              cs i.keys hwa hfa2 hkl hmem h (pos - 1) out (i.toNode ds.length 0 1) [] hfa').trans ?_
            rw [hwalk, hwalk]
            cases hlub : STree.lubL cs (pickD i.keys j.keys ds) with
            | none => rfl
            | some rc' =>
              rw [← hl, ← (STree.lubL_length cs _ rc' hlub).1]
              exact congrArg Except.ok (node_result i rc' out _ _)
          · -- the other kinds: both cursors move in step
            by_cases hC : (i.lubC j && cs.length == ds.length) = true
            case neg => simp [hid, hC]
            have hl : cs.length = ds.length := eq_of_beq (Bool.and_eq_true_iff.mp hC).2
            simp only [hid, hC, Bool.false_eq_true, if_false, if_true, alignC_seq ds (Bool.not_eq_true _ ▸ hid)]
            refine (broadcastChildren_enc f hG tr otr pos opos cs ds hwa hfa2 hwb hfb2 hl h (pos - 1) (opos - 1) out
              (i.toNode cs.length 0 1) [] hfa' hfb').trans ?_
            rw [hwalk, hwalk]
            cases hlub : STree.lubL cs ds with
            | none => rfl
            | some rc' =>
              rw [← (STree.lubL_length cs _ rc' hlub).1]
              exact congrArg Except.ok (node_result i rc' out _ _)

/-- the outcome of broadcasting two shapes: `ValueError` on a conflict, else the merged treespec -/
def bcastSpec (a b : STree) (nil : Bool) (ns : String) : Except Err Spec :=
  match a.lub b with
  | Option.none => .error .value
  | some c => .ok (c.spec nil ns)

/-- **`broadcast_to_common_suffix` on encodings computes the tree-level least common suffix**: `ValueError`
exactly when the shapes conflict (or the options do), otherwise the encoding of `lub a b` -/
theorem broadcast_enc (a b : STree) (ha : a.wf = true) (hfa : a.fitsT = true) (hb : b.wf = true)
    (hfb : b.fitsT = true) (nil nil' : Bool) (ns ns' : String) :
    broadcast (a.spec nil ns) (b.spec nil' ns') =
      if nil != nil' then .error .value
      else if !nsCompatible ns ns' then .error .value
      else bcastSpec a b nil (mergeNs ns ns') := by
  have hgo := bg_all (a.enc.length + b.enc.length + 2) a (by rw [STree.enc_length]; omega) ha hfa b hb hfb
    a.enc ((a.enc.length : Int) - 1) b.enc ((b.enc.length : Int) - 1) [] (subAt_whole a) (subAt_whole b)
  simp only [broadcast, bcastSpec, STree.spec_sane, STree.spec_nodes, STree.spec_noneIsLeaf, STree.spec_ns, Bool.not_true,
    Bool.or_self, Bool.false_eq_true, if_false, if_true, hgo, goSpec]
  cases a.lub b with
  | none => rfl
  | some c =>
    -- the engine's own checks on what it has built
    simp only [List.nil_append, STree.renc, List.reverse_reverse, STree.mk_enc, STree.enc_length, STree.spec_numNodes,
      STree.spec_numLeaves, STree.spec_sane, bne_self_eq_false, Bool.or_self, Bool.false_eq_true, if_false, Bool.not_true]

end Optree

