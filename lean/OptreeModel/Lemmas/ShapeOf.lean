/-
  `shapeOf`: the shape `flatten` assigns to a tree, as a structural recursion (no depth counter, no
  predicate), and the proof that `flatten` computes exactly its encoding.
-/
import OptreeModel.Lemmas.EncFlatten

namespace Optree

def plainInfo (kind : Kind) (data : NodeData) (okeys : Option (List Key)) : NInfo :=
  ⟨kind, data, Option.none, Option.none, okeys⟩

@[simp] theorem NodeData.isSome_none : NodeData.none.isSome = false := rfl
@[simp] theorem NodeData.isSome_keys (ks : List Key) : (NodeData.keys ks).isSome = true := rfl
@[simp] theorem NodeData.isSome_ddict (f : Option Nat) (ks : List Key) : (NodeData.ddict f ks).isSome = true := rfl
@[simp] theorem NodeData.isSome_cls (c : TypeId) : (NodeData.cls c).isSome = true := rfl
@[simp] theorem NodeData.isSome_maxlen (m : Option Nat) : (NodeData.maxlen m).isSome = true := rfl
@[simp] theorem NodeData.isSome_md (m : Option Key) : (NodeData.md m).isSome = true := rfl

@[simp] theorem plainInfo_keys_keys (k : Kind) (ks : List Key) (ok : Option (List Key)) :
    (plainInfo k (.keys ks) ok).keys = ks := rfl
@[simp] theorem plainInfo_keys_ddict (k : Kind) (f : Option Nat) (ks : List Key) (ok : Option (List Key)) :
    (plainInfo k (.ddict f ks) ok).keys = ks := rfl
@[simp] theorem plainInfo_kind (k : Kind) (d : NodeData) (ok : Option (List Key)) : (plainInfo k d ok).kind = k := rfl
@[simp] theorem plainInfo_data (k : Kind) (d : NodeData) (ok : Option (List Key)) : (plainInfo k d ok).data = d := rfl
@[simp] theorem plainInfo_custom (k : Kind) (d : NodeData) (ok : Option (List Key)) :
    (plainInfo k d ok).custom = Option.none := rfl

mutual
def shapeOf (cfg : Cfg) (sorted : Bool) : PyObj → STree
  | .leaf _ _ => .leaf
  | .none => if cfg.noneIsLeaf then .leaf else .node (plainInfo .none .none Option.none) []
  | .tuple xs => .node (plainInfo .tuple .none Option.none) (shapeOfList cfg sorted xs)
  | .list xs => .node (plainInfo .list .none Option.none) (shapeOfList cfg sorted xs)
  | .dict kvs =>
      let items := dictOrder false sorted (shapeOfKVs cfg sorted kvs)
      .node (plainInfo .dict (.keys (items.map (·.1))) (some (kvs.map (·.1)))) (items.map (·.2))
  | .odict kvs =>
      let items := shapeOfKVs cfg sorted kvs
      .node (plainInfo .ordereddict (.keys (items.map (·.1))) Option.none) (items.map (·.2))
  | .ddict f kvs =>
      let items := dictOrder false sorted (shapeOfKVs cfg sorted kvs)
      .node (plainInfo .defaultdict (.ddict f (items.map (·.1))) (some (kvs.map (·.1)))) (items.map (·.2))
  | .deque m xs => .node (plainInfo .deque (.maxlen m) Option.none) (shapeOfList cfg sorted xs)
  | .ntuple cls xs =>
      match cfg.reg.lookup cfg.ns 1 cls with
      | some reg =>
          .node ⟨.custom, .md Option.none, customEntries reg xs.length, some reg, Option.none⟩
            (shapeOfList cfg sorted xs)
      | Option.none => .node (plainInfo .namedtuple (.cls cls) Option.none) (shapeOfList cfg sorted xs)
  | .sseq cls xs =>
      match cfg.reg.lookup cfg.ns 2 cls with
      | some reg =>
          .node ⟨.custom, .md Option.none, customEntries reg xs.length, some reg, Option.none⟩
            (shapeOfList cfg sorted xs)
      | Option.none => .node (plainInfo .structseq (.cls cls) Option.none) (shapeOfList cfg sorted xs)
  | .user cls md _ xs =>
      match cfg.reg.lookup cfg.ns 0 cls with
      | some reg =>
          .node ⟨.custom, .md md, customEntries reg xs.length, some reg, Option.none⟩
            (shapeOfList cfg sorted xs)
      | Option.none => .leaf
def shapeOfList (cfg : Cfg) (sorted : Bool) : List PyObj → List STree
  | [] => []
  | x :: xs => shapeOf cfg sorted x :: shapeOfList cfg sorted xs
def shapeOfKVs (cfg : Cfg) (sorted : Bool) : List (Key × PyObj) → List (Key × STree)
  | [] => []
  | (k, x) :: xs => (k, shapeOf cfg sorted x) :: shapeOfKVs cfg sorted xs
end

theorem shapeOfList_eq (cfg : Cfg) (s : Bool) (xs : List PyObj) :
    shapeOfList cfg s xs = xs.map (shapeOf cfg s) := by
  induction xs with
  | nil => rfl
  | cons x xs ih => simp [shapeOfList, ih]

theorem shapeOfKVs_eq (cfg : Cfg) (s : Bool) (kvs : List (Key × PyObj)) :
    shapeOfKVs cfg s kvs = kvs.map (fun p => (p.1, shapeOf cfg s p.2)) := by
  induction kvs with
  | nil => rfl
  | cons p kvs ih => obtain ⟨k, x⟩ := p; simp [shapeOfKVs, ih]

/-- the record of an instance of a registered class with `n` children and a well-behaved flatten function -/
def customInfo (reg : Reg) (md : Option Key) (n : Nat) : NInfo :=
  ⟨.custom, .md md, customEntries reg n, some reg, Option.none⟩

theorem shapeOf_view (cfg : Cfg) (s : Bool) (x : PyObj) :
    shapeOf cfg s x =
      match x.view cfg s with
      | .leaf => .leaf
      | .node k data ok cs => .node (plainInfo k data ok) (cs.map (shapeOf cfg s))
      | .custom reg md _ cs => .node (customInfo reg md cs.length) (cs.map (shapeOf cfg s)) := by
  cases x <;>
    simp only [shapeOf, PyObj.view, shapeOfList_eq, shapeOfKVs_eq, dictOrder_mapVals, List.map_map,
      Function.comp_def, customInfo]
  case none => cases cfg.noneIsLeaf <;> rfl
  case ntuple cls xs => cases cfg.reg.lookup cfg.ns 1 cls <;> rfl
  case sseq cls xs => cases cfg.reg.lookup cfg.ns 2 cls <;> rfl
  case user cls md q xs => cases cfg.reg.lookup cfg.ns 0 cls <;> rfl

/-- the record `flatten` writes for an object that is not a leaf (for an instance of a registered class: when its
flatten function is well-behaved) -/
def View.info : View → Option NInfo
  | .leaf => Option.none
  | .node k data ok _ => some (plainInfo k data ok)
  | .custom reg md _ cs => some (customInfo reg md cs.length)

theorem shapeOf_info (cfg : Cfg) (s : Bool) (t : PyObj) :
    shapeOf cfg s t =
      match (t.view cfg s).info with
      | Option.none => .leaf
      | some i => .node i ((t.view cfg s).kids.map (shapeOf cfg s)) := by
  rw [shapeOf_view]
  cases t.view cfg s <;> rfl

/-- Induction over a well-formed tree together with its shape: `Q t (shapeOf t)` follows from `Q` at leaves (`hleaf`)
and, at a node with record `i`, from `Q` at the children and their shapes (`hnode`). -/
theorem shapeOf_induct (cfg : Cfg) (s : Bool) {Q : PyObj → STree → Prop}
    (hleaf : ∀ t, (t.view cfg s).info = Option.none → Q t .leaf)
    (hnode : ∀ t, t.wf = true → ∀ i, (t.view cfg s).info = some i →
      (∀ c ∈ (t.view cfg s).kids, Q c (shapeOf cfg s c)) →
      Q t (.node i ((t.view cfg s).kids.map (shapeOf cfg s)))) :
    ∀ t : PyObj, t.wf = true → Q t (shapeOf cfg s t) := by
  intro t
  induction t using PyObj.view_induct cfg s with | _ t ih
  intro hwf
  rw [shapeOf_info]
  cases hi : (t.view cfg s).info with
  | none => exact hleaf t hi
  | some i => exact hnode t hwf i hi fun c hc => ih c hc (PyObj.wf_kids cfg s hwf c hc)

theorem seqOuts_shapeOf {f : PyObj → Except Err FlatOut} {g : PyObj → STree} {cs : List PyObj} {b : FlatOut}
    (ih : ∀ c ∈ cs, ∀ o, f c = .ok o → o.nodes = (g c).enc ∧ o.leaves.length = (g c).leaves)
    (hb : seqOuts (cs.map f) = .ok b) :
    b.nodes = STree.encL (cs.map g) ∧ b.leaves.length = STree.leavesL (cs.map g) := by
  refine seqOuts_induct
    (Q := fun cs b => b.nodes = STree.encL (cs.map g) ∧ b.leaves.length = STree.leavesL (cs.map g))
    ⟨rfl, rfl⟩ ?_ ih hb
  rintro _ _ _ _ ⟨h1, h2⟩ ⟨h3, h4⟩
  simp [FlatOut.append, STree.encL, STree.leavesL, h1, h2, h3, h4]

def Sh (cfg : Cfg) (s : Bool) (t : PyObj) : Prop :=
  ∀ d out, flattenGo cfg s d t = .ok out →
    out.nodes = (shapeOf cfg s t).enc ∧ out.leaves.length = (shapeOf cfg s t).leaves

/-- `flatten` computes the encoding of `shapeOf`: without a predicate, for a well-formed `t` at any depth, the
records a successful `flattenGo` returns are `(shapeOf t).enc`, and the leaves returned are as many as `shapeOf t`
has. -/
theorem sh (cfg : Cfg) (hp : cfg.pred = Option.none) (s : Bool) (t : PyObj) : t.wf = true → Sh cfg s t := by
  induction t using PyObj.view_induct cfg s with | _ t ih
  intro hwf d out h
  obtain ⟨-, ⟨he, -⟩ | ⟨-, h⟩⟩ := flattenGo_ok h
  · rw [evalPred_none cfg hp] at he; cases he
  have ih := fun c hc => ih c hc (PyObj.wf_kids cfg s hwf c hc)
  rw [shapeOf_view]
  cases hv : t.view cfg s <;> simp only [hv, View.kids] at h ih ⊢
  case leaf => cases h; exact ⟨rfl, rfl⟩
  case node k data ok cs =>
    obtain ⟨b, hb, rfl⟩ := closeSeq_ok h
    obtain ⟨hn, hl⟩ := seqOuts_shapeOf (fun c hc => ih c hc (d + 1)) hb
    exact close_enc hn hl (List.length_map _) (plainInfo k data ok) false
  case custom reg md q cs =>
    obtain rfl := PyObj.wf_quirk hwf hv
    rw [customFlatten_regEntries reg md cs _ (List.length_map _)] at h
    obtain ⟨b, hb, rfl⟩ := seqClose_ok h
    obtain ⟨hn, hl⟩ := seqOuts_shapeOf (fun c hc => ih c hc (d + 1)) hb
    exact close_enc hn hl (List.length_map _) (customInfo reg md cs.length) true

theorem shList (cfg : Cfg) (hp : cfg.pred = Option.none) (s : Bool) : ∀ xs : List PyObj,
    PyObj.wfList xs = true → ∀ x ∈ xs, Sh cfg s x :=
  fun _ h x hx => sh cfg hp s x (PyObj.wfList_mem h x hx)

theorem shKVs (cfg : Cfg) (hp : cfg.pred = Option.none) (s : Bool) : ∀ kvs : List (Key × PyObj),
    PyObj.wfKVs kvs = true → ∀ p ∈ kvs, Sh cfg s p.2 :=
  fun _ h p hp' => sh cfg hp s p.2 (PyObj.wfKVs_mem h p hp')

/-- **`tree_structure(t)` is the encoding of `shapeOf t`** (no predicate, well-behaved flatten functions) -/
theorem flatten_shapeOf (cfg : Cfg) (hp : cfg.pred = Option.none) (t : PyObj) (hwf : t.wf = true)
    (ls : List PyObj) (sp : Spec) (h : flatten cfg t = .ok (ls, sp)) :
    sp = (shapeOf cfg (!cfg.insertionOrdered) t).spec cfg.noneIsLeaf sp.ns ∧
      ls.length = (shapeOf cfg (!cfg.insertionOrdered) t).leaves := by
  obtain ⟨out, ho, rfl, rfl⟩ := flatten_ok h
  obtain ⟨hn, hl⟩ := sh cfg hp _ t hwf 0 out ho
  exact ⟨by simp [STree.spec, hn], hl⟩

end Optree
