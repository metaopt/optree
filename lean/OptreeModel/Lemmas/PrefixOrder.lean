/-
  The tree-level prefix relation `STree.prefixB` (C07): normal form and order laws.

  At two internal nodes `prefixB` is node-level compatibility (`NInfo.preC`, Compat.lean) ∧ `prefixL` on the
  children, the second list re-paired by key when the first node is of a dict kind (`alignC`): `STree.prefixB_nf`,
  and `STree.sameB_nf` for `sameB`.  On that normal form `prefixB` is a preorder on well-formed shapes and a prefix
  is not larger: `preC` is reflexive and transitive, the re-paired children are always among the other node's
  children (`alignC_subset`) and, between compatible nodes, a permutation of them (`alignC_perm`).
-/
import OptreeModel.Lemmas.Enc
import OptreeModel.Lemmas.Compat

namespace Optree

/-! ### pairing by key -/

/-- the children of the other node re-ordered to follow `ks` -/
def pickD (ks oks : List Key) (ds : List STree) : List STree :=
  ks.filterMap fun k => lookupChild k oks ds

theorem keyIndex_cons (k k' : Key) (ks : List Key) :
    keyIndex k (k' :: ks) = if k' == k then some 0 else (keyIndex k ks).map (· + 1) := by
  simp only [keyIndex, List.findIdx_cons, List.length_cons]
  cases k' == k
  · simp only [cond_false, Bool.false_eq_true, if_false, Nat.add_lt_add_iff_right]
    split <;> rfl
  · simp only [cond_true, Nat.zero_lt_succ, if_true]

theorem keyIndex_lt {k : Key} {ks : List Key} {j : Nat} (h : keyIndex k ks = some j) : j < ks.length := by
  rw [keyIndex] at h
  split at h
  · exact Option.some.inj h ▸ ‹_›
  · cases h

theorem keyIndex_of_mem {k : Key} {ks : List Key} (h : k ∈ ks) : ∃ j, keyIndex k ks = some j :=
  ⟨_, if_pos (List.findIdx_lt_length_of_exists (p := (· == k)) ⟨k, h, beq_self_eq_true k⟩)⟩

theorem lookupChild_eq_getElem (k : Key) (oks : List Key) (ds : List STree) (hlen : oks.length = ds.length) :
    lookupChild k oks ds = (keyIndex k oks).bind fun j => ds[j]? := by
  induction oks generalizing ds with
  | nil => rfl
  | cons k' oks ih =>
    obtain ⟨d, ds, rfl⟩ := List.exists_cons_of_length_eq_add_one hlen.symm
    rw [lookupChild, keyIndex_cons]
    cases k' == k
    · rw [if_neg Bool.false_ne_true, if_neg Bool.false_ne_true, ih ds (Nat.succ.inj hlen)]
      cases keyIndex k oks <;> rfl
    · rfl

theorem lookupChild_of_mem {k : Key} {oks : List Key} {ds : List STree} (hlen : oks.length = ds.length)
    (h : k ∈ oks) : ∃ j d, keyIndex k oks = some j ∧ ds[j]? = some d ∧ lookupChild k oks ds = some d := by
  obtain ⟨j, hj⟩ := keyIndex_of_mem h
  have hjd : j < ds.length := hlen ▸ keyIndex_lt hj
  refine ⟨j, _, hj, List.getElem?_eq_getElem hjd, ?_⟩
  rw [lookupChild_eq_getElem k oks ds hlen, hj]
  exact List.getElem?_eq_getElem hjd

theorem lookupChild_mem {k : Key} : ∀ {oks : List Key} {ds : List STree} {d : STree},
    lookupChild k oks ds = some d → d ∈ ds
  | _ :: _, _ :: _, _, h => by
      rw [lookupChild] at h
      split at h
      · exact Option.some.inj h ▸ List.mem_cons_self
      · exact List.mem_cons_of_mem _ (lookupChild_mem h)
  | [], _, _, h => nomatch h
  | _ :: _, [], _, h => nomatch h

theorem pickD_cons (k : Key) (ks oks : List Key) (ds : List STree) (d : STree)
    (h : lookupChild k oks ds = some d) : pickD (k :: ks) oks ds = d :: pickD ks oks ds := by
  rw [pickD, List.filterMap_cons, h]; rfl

theorem pickD_snoc (ks : List Key) (k : Key) (oks : List Key) (ds : List STree) (d : STree)
    (h : lookupChild k oks ds = some d) : pickD (ks ++ [k]) oks ds = pickD ks oks ds ++ [d] := by
  rw [pickD, List.filterMap_append, List.filterMap_cons, h]
  rfl

theorem pickD_length (ks oks : List Key) (ds : List STree) (hlen : oks.length = ds.length)
    (hmem : ∀ k ∈ ks, k ∈ oks) : (pickD ks oks ds).length = ks.length := by
  induction ks with
  | nil => rfl
  | cons k ks ih =>
    obtain ⟨-, d, -, -, hl⟩ := lookupChild_of_mem hlen (hmem k List.mem_cons_self)
    rw [pickD_cons k ks oks ds d hl, List.length_cons, List.length_cons,
      ih fun k' hk' => hmem k' (List.mem_cons_of_mem _ hk')]

theorem pickD_self (ks : List Key) (ds : List STree) (hlen : ks.length = ds.length)
    (hnd : ks.Nodup) : pickD ks ks ds = ds := by
  induction ks generalizing ds with
  | nil => rw [List.eq_nil_of_length_eq_zero hlen.symm]; rfl
  | cons k ks ih =>
    obtain ⟨d, ds, rfl⟩ := List.exists_cons_of_length_eq_add_one hlen.symm
    obtain ⟨hk, hnd'⟩ := List.nodup_cons.mp hnd
    rw [pickD_cons k ks _ _ d (by rw [lookupChild, beq_self_eq_true]; rfl)]
    refine congrArg (d :: ·) (Eq.trans (filterMap_congr fun k' hk' => ?_) (ih ds (Nat.succ.inj hlen) hnd'))
    -- the other keys are not the first one
    rw [lookupChild, if_neg fun e => hk ((eq_of_beq e : k = k') ▸ hk')]
theorem pickD_perm {ks oks : List Key} {ds : List STree} (h : keySetEq ks oks = true)
    (hnd : ks.Nodup) (hnd' : oks.Nodup) (hlen : oks.length = ds.length) :
    (pickD ks oks ds).Perm ds := by
  have hp := keys_perm h hnd
  have := hp.filterMap (fun k => lookupChild k oks ds)
  rw [show List.filterMap (fun k => lookupChild k oks ds) oks = ds from pickD_self oks ds hlen hnd'] at this
  exact this

theorem STree.sizeL_perm {xs ys : List STree} (h : xs.Perm ys) : STree.sizeL xs = STree.sizeL ys := by
  rw [STree.sizeL_eq_sum, STree.sizeL_eq_sum]
  exact (h.map STree.size).sum_nat

/-- Pairing children by key is pairing them by position once the other node's children are re-ordered by `pickD`.
`D ks cs` is a recursion that looks the partner of each child up by its key (`prefixD`, `sameD`, `lubD`), `L` the one
that takes the partners in order (`prefixL`, `sameL`, `lubL`); `g c d r` is how both combine a child `c` and its
partner `d` with the result `r` for the rest of the list. -/
theorem byKey_eq_byPos {β : Type} (oks : List Key) (ds : List STree) (hlen : oks.length = ds.length)
    (D : List Key → List STree → β) (L : List STree → List STree → β) (g : STree → STree → β → β)
    (nil : D [] [] = L [] [])
    (hD : ∀ k ks c cs d, lookupChild k oks ds = some d → D (k :: ks) (c :: cs) = g c d (D ks cs))
    (hL : ∀ c cs d ds', L (c :: cs) (d :: ds') = g c d (L cs ds')) :
    ∀ (ks : List Key) (cs : List STree), ks.length = cs.length → (∀ k ∈ ks, k ∈ oks) →
      D ks cs = L cs (pickD ks oks ds) := by
  intro ks
  induction ks with
  | nil =>
    intro cs h _
    rw [List.eq_nil_of_length_eq_zero h.symm]
    exact nil
  | cons k ks ih =>
    intro cs h hm
    obtain ⟨c, cs, rfl⟩ := List.exists_cons_of_length_eq_add_one h.symm
    obtain ⟨-, d, -, -, hl⟩ := lookupChild_of_mem hlen (hm k List.mem_cons_self)
    rw [pickD_cons k ks oks ds _ hl, hD k ks c cs d hl, hL,
      ih cs (Nat.succ.inj h) fun k' hk' => hm k' (List.mem_cons_of_mem _ hk')]

theorem STree.prefixD_eq (oks : List Key) (ds : List STree) (hlen : oks.length = ds.length) :
    ∀ (ks : List Key) (cs : List STree), ks.length = cs.length → (∀ k ∈ ks, k ∈ oks) →
      STree.prefixD ks cs oks ds = STree.prefixL cs (pickD ks oks ds) :=
  byKey_eq_byPos oks ds hlen (STree.prefixD · · oks ds) STree.prefixL (fun c d r => c.prefixB d && r) rfl
    (fun _ _ _ _ _ h => by rw [STree.prefixD, h]) fun _ _ _ _ => by rw [STree.prefixL]

theorem STree.sameD_eq (oks : List Key) (ds : List STree) (hlen : oks.length = ds.length) :
    ∀ (ks : List Key) (cs : List STree), ks.length = cs.length → (∀ k ∈ ks, k ∈ oks) →
      STree.sameD ks cs oks ds = STree.sameL cs (pickD ks oks ds) :=
  byKey_eq_byPos oks ds hlen (STree.sameD · · oks ds) STree.sameL (fun c d r => c.sameB d && r) rfl
    (fun _ _ _ _ _ h => by rw [STree.sameD, h]) fun _ _ _ _ => by rw [STree.sameL]

/-- if `ds` sits below `es` key by key, the child of `ds` under `k` sits below the child of `es` under `k` -/
theorem prefixL_lookup (kk : List Key) (es : List STree) (hl : kk.length = es.length) (k : Key) (d e : STree)
    (he : lookupChild k kk es = some e) :
    ∀ (jk : List Key) (ds : List STree), STree.prefixL ds (pickD jk kk es) = true → lookupChild k jk ds = some d →
      (∀ k' ∈ jk, k' ∈ kk) → d.prefixB e = true := by
  intro jk
  induction jk with
  | nil => intro ds _ hd; cases ds <;> cases hd
  | cons k0 jk ih =>
    intro ds hp hd hm
    cases ds with
    | nil => cases hd
    | cons d0 ds =>
      obtain ⟨-, e0, -, -, hl0⟩ := lookupChild_of_mem hl (hm k0 List.mem_cons_self)
      rw [pickD_cons k0 jk kk es _ hl0, STree.prefixL, Bool.and_eq_true] at hp
      rw [lookupChild] at hd
      by_cases hk : (k0 == k) = true
      · rw [if_pos hk] at hd
        rw [eq_of_beq hk, he] at hl0
        cases hd; cases hl0
        exact hp.1
      · rw [if_neg hk] at hd
        exact ih ds hp.2 hd fun k' hk' => hm k' (List.mem_cons_of_mem _ hk')

theorem prefixL_reindex (jk : List Key) (ds : List STree) (kk : List Key) (es : List STree)
    (hp : STree.prefixL ds (pickD jk kk es) = true) (hjd : jk.length = ds.length)
    (hm : ∀ k' ∈ jk, k' ∈ kk) (hl : kk.length = es.length) (ik : List Key) (hi : ∀ k ∈ ik, k ∈ jk) :
    STree.prefixL (pickD ik jk ds) (pickD ik kk es) = true := by
  induction ik with
  | nil => rfl
  | cons k ik ih =>
    obtain ⟨-, d, -, -, hl1⟩ := lookupChild_of_mem hjd (hi k List.mem_cons_self)
    obtain ⟨-, e, -, -, hl2⟩ := lookupChild_of_mem hl (hm k (hi k List.mem_cons_self))
    rw [pickD_cons k ik jk ds _ hl1, pickD_cons k ik kk es _ hl2, STree.prefixL, Bool.and_eq_true]
    exact ⟨prefixL_lookup kk es hl k d e hl2 jk ds hp hl1 hm, ih fun k' hk' => hi k' (List.mem_cons_of_mem _ hk')⟩

/-! ### normal form -/

/-- the children of the second node, in the order of the first node's children -/
def alignC (i j : NInfo) (ds : List STree) : List STree :=
  if i.kind.isDict then pickD i.keys j.keys ds else ds

theorem alignC_dict {i j : NInfo} (ds : List STree) (h : i.kind.isDict = true) :
    alignC i j ds = pickD i.keys j.keys ds := by simp [alignC, h]

theorem alignC_seq {i j : NInfo} (ds : List STree) (h : i.kind.isDict = false) :
    alignC i j ds = ds := by simp [alignC, h]

theorem alignC_subset (i j : NInfo) (ds : List STree) : alignC i j ds ⊆ ds := by
  intro d hd
  unfold alignC at hd
  split at hd
  · obtain ⟨k, -, hk⟩ := List.mem_filterMap.mp hd
    exact lookupChild_mem hk
  · exact hd

/-- how `prefixB` and its normal form bracket their tests, in every arm -/
theorem and_rearrange (a b c m p : Bool) : (a && b && c && (m && p)) = (a && (b && c && m) && p) := by
  cases a <;> cases b <;> cases c <;> rfl

theorem STree.prefixB_nf (i j : NInfo) (cs ds : List STree)
    (hdi : i.kind.isDict = true → i.keys.length = cs.length)
    (hdj : j.kind.isDict = true → j.keys.length = ds.length) :
    (STree.node i cs).prefixB (.node j ds) =
      (cs.length == ds.length && i.preC j && STree.prefixL cs (alignC i j ds)) := by
  -- between dict kinds with the same keys, pairing by key is pairing by position after `pickD`
  have hD : i.kind.isDict = true →
      (j.kind.isDict && keySetEq i.keys j.keys && STree.prefixD i.keys cs j.keys ds) =
      (j.kind.isDict && keySetEq i.keys j.keys && STree.prefixL cs (pickD i.keys j.keys ds)) := by
    intro hid
    cases hjd : j.kind.isDict with
    | false => rfl
    | true =>
      cases hks : keySetEq i.keys j.keys with
      | false => rfl
      | true => rw [STree.prefixD_eq j.keys ds (hdj hjd) i.keys cs (hdi hid) (keySetEq_mem hks)]
  rw [STree.prefixB, NInfo.preC, alignC]
  cases hk : i.kind with
  | leaf => simp only [Bool.and_false, Bool.false_and]
  | none | tuple | list | deque | namedtuple | structseq | custom => exact and_rearrange ..
  | dict | ordereddict | defaultdict =>
    rw [hD (by rw [hk]; rfl)]
    exact and_rearrange ..

/-- what `prefixB` between two nodes gives, read off the normal form -/
theorem STree.prefixB_node {i j : NInfo} {cs ds : List STree}
    (hdi : i.kind.isDict = true → i.keys.length = cs.length)
    (hdj : j.kind.isDict = true → j.keys.length = ds.length)
    (h : (STree.node i cs).prefixB (.node j ds) = true) :
    cs.length = ds.length ∧ i.preC j = true ∧ STree.prefixL cs (alignC i j ds) = true := by
  rw [STree.prefixB_nf i j cs ds hdi hdj] at h
  simpa only [Bool.and_eq_true, beq_iff_eq, and_assoc] using h

theorem STree.sameB_nf (i j : NInfo) (cs ds : List STree) (hdi : i.kind.isDict = true → i.keys.length = cs.length)
    (hdj : j.kind.isDict = true → j.keys.length = ds.length) (p : i.preC j = true) :
    (STree.node i cs).sameB (.node j ds) = STree.sameL cs (alignC i j ds) := by
  simp only [STree.sameB, alignC]
  split
  · rename_i hid
    exact STree.sameD_eq j.keys ds (hdj ((NInfo.preC_isDict p).trans hid)) i.keys cs (hdi hid)
      (keySetEq_mem (NInfo.preC_keys p hid))
  · rfl

/-! ### `alignC` between compatible nodes -/

theorem alignC_perm {i j : NInfo} {ds : List STree} (hd : j.kind.isDict = i.kind.isDict)
    (hks : i.kind.isDict = true → keySetEq i.keys j.keys = true)
    (hi : i.kind.isDict = true → i.keys.Nodup) (hjl : j.kind.isDict = true → j.keys.length = ds.length)
    (hjn : j.kind.isDict = true → j.keys.Nodup) : (alignC i j ds).Perm ds := by
  by_cases hid : i.kind.isDict = true
  · rw [alignC_dict _ hid]
    exact pickD_perm (hks hid) (hi hid) (hjn (hd.trans hid)) (hjl (hd.trans hid))
  · rw [alignC_seq _ (by simpa using hid)]

theorem alignC_of_keys_eq {i j : NInfo} {ds : List STree} (hk : i.kind.isDict = true → i.keys = j.keys)
    (hl : i.kind.isDict = true → j.keys.length = ds.length) (hn : i.kind.isDict = true → j.keys.Nodup) :
    alignC i j ds = ds := by
  by_cases hid : i.kind.isDict = true
  · rw [alignC_dict _ hid, hk hid]; exact pickD_self _ _ (hl hid) (hn hid)
  · rw [alignC_seq _ (by simpa using hid)]

theorem alignC_self {i : NInfo} {cs : List STree} (hl : i.kind.isDict = true → i.keys.length = cs.length)
    (hn : i.kind.isDict = true → i.keys.Nodup) : alignC i i cs = cs :=
  alignC_of_keys_eq (fun _ => rfl) hl hn

theorem prefixL_alignC {i j k : NInfo} {ds es : List STree} (pij : i.preC j = true) (pjk : j.preC k = true)
    (hj : j.kind.isDict = true → j.keys.length = ds.length) (hk : k.kind.isDict = true → k.keys.length = es.length)
    (h : STree.prefixL ds (alignC j k es) = true) : STree.prefixL (alignC i j ds) (alignC i k es) = true := by
  have hdj := NInfo.preC_isDict pij
  have hdk := NInfo.preC_isDict pjk
  by_cases hid : i.kind.isDict = true
  · have hjd := hdj.trans hid
    rw [alignC_dict _ hid, alignC_dict _ hid]
    rw [alignC_dict _ hjd] at h
    exact prefixL_reindex j.keys ds k.keys es h (hj hjd) (keySetEq_mem (NInfo.preC_keys pjk hjd))
      (hk (hdk.trans hjd)) i.keys (keySetEq_mem (NInfo.preC_keys pij hid))
  · have hid' : i.kind.isDict = false := by simpa using hid
    rw [alignC_seq _ hid', alignC_seq _ hid']
    rwa [alignC_seq _ (hdj.trans hid')] at h

/-! ### reflexivity, transitivity, size -/

theorem STree.prefixL_length : ∀ (cs ds : List STree), STree.prefixL cs ds = true → cs.length = ds.length := by
  intro cs
  induction cs with
  | nil => intro ds h; cases ds with
    | nil => rfl
    | cons _ _ => cases h
  | cons c cs ih => intro ds h; cases ds with
    | nil => cases h
    | cons d ds =>
      rw [STree.prefixL, Bool.and_eq_true] at h
      exact congrArg (· + 1) (ih ds h.2)

mutual
theorem STree.prefixB_refl : ∀ a : STree, a.wf = true → a.prefixB a = true
  | .leaf, _ => rfl
  | .node i cs, h => by
      obtain ⟨hnl, li, ni, w⟩ := STree.wf_nodeK h
      rw [STree.prefixB_nf i i cs cs li li, NInfo.preC_refl hnl, alignC_self li ni, STree.prefixL_refl cs w]
      simp
theorem STree.prefixL_refl : ∀ cs : List STree, STree.wfL cs = true → STree.prefixL cs cs = true
  | [], _ => rfl
  | c :: cs, h => by
      rw [STree.wfL_cons] at h
      simp [STree.prefixL, STree.prefixB_refl c h.1, STree.prefixL_refl cs h.2]
end

mutual
/-- **the prefix relation is transitive** on well-formed shapes (dict kinds re-paired by key at every level) -/
theorem STree.prefixB_trans : ∀ a : STree, a.wf = true → ∀ b : STree, b.wf = true → ∀ c : STree, c.wf = true →
    a.prefixB b = true → b.prefixB c = true → a.prefixB c = true
  | .leaf, _, _, _, _, _, _, _ => rfl
  | .node _ _, _, .leaf, _, _, _, h1, _ => nomatch h1
  | .node _ _, _, .node _ _, _, .leaf, _, _, h2 => nomatch h2
  | .node i cs, ha, .node j ds, hb, .node k es, hc, h1, h2 => by
      obtain ⟨-, li, -, wa⟩ := STree.wf_nodeK ha
      obtain ⟨-, lj, -, wb⟩ := STree.wf_nodeK hb
      obtain ⟨-, lk, -, wc⟩ := STree.wf_nodeK hc
      obtain ⟨l1, p1, c1⟩ := STree.prefixB_node li lj h1
      obtain ⟨l2, p2, c2⟩ := STree.prefixB_node lj lk h2
      rw [STree.prefixB_nf i k cs es li lk]
      simp only [Bool.and_eq_true, beq_iff_eq]
      refine ⟨⟨l1.trans l2, NInfo.preC_trans p1 p2⟩, ?_⟩
      -- both other child lists re-aligned to `i`
      exact STree.prefixL_trans cs wa _ (STree.wfL_subset (alignC_subset i j ds) wb) _
        (STree.wfL_subset (alignC_subset i k es) wc) c1 (prefixL_alignC p1 p2 lj lk c2)
theorem STree.prefixL_trans : ∀ cs : List STree, STree.wfL cs = true → ∀ ds : List STree, STree.wfL ds = true →
    ∀ es : List STree, STree.wfL es = true → STree.prefixL cs ds = true → STree.prefixL ds es = true →
    STree.prefixL cs es = true
  | [], _, ds, _, es, _, h1, h2 => by
      cases ds with
      | cons _ _ => cases h1
      | nil => exact h2
  | c :: cs, hw, ds, hwd, es, hwe, h1, h2 => by
      cases ds with
      | nil => cases h1
      | cons d ds =>
        cases es with
        | nil => cases h2
        | cons e es =>
          rw [STree.wfL_cons] at hw hwd hwe
          simp only [STree.prefixL, Bool.and_eq_true] at h1 h2 ⊢
          exact ⟨STree.prefixB_trans c hw.1 d hwd.1 e hwe.1 h1.1 h2.1,
            STree.prefixL_trans cs hw.2 ds hwd.2 es hwe.2 h1.2 h2.2⟩
end

mutual
theorem STree.prefixB_size : ∀ a : STree, a.wf = true → ∀ b : STree, b.wf = true →
    a.prefixB b = true → a.size ≤ b.size
  | .leaf, _, b, _, _ => STree.size_pos b
  | .node i cs, ha, .leaf, _, h => nomatch h
  | .node i cs, ha, .node j ds, hb, h => by
      obtain ⟨-, li, ni, wa⟩ := STree.wf_nodeK ha
      obtain ⟨-, lj, nj, wb⟩ := STree.wf_nodeK hb
      obtain ⟨-, p, c⟩ := STree.prefixB_node li lj h
      have hp := alignC_perm (NInfo.preC_isDict p) (NInfo.preC_keys p) ni lj nj
      exact Nat.succ_le_succ (STree.sizeL_perm hp ▸ STree.prefixL_size cs wa _ (STree.wfL_subset hp.subset wb) c)
theorem STree.prefixL_size : ∀ cs : List STree, STree.wfL cs = true → ∀ ds : List STree,
    STree.wfL ds = true → STree.prefixL cs ds = true → STree.sizeL cs ≤ STree.sizeL ds
  | [], _, _, _, _ => Nat.zero_le _
  | c :: cs, hc, ds, hd, h => by
      cases ds with
      | nil => cases h
      | cons d ds =>
        rw [STree.wfL_cons] at hc hd
        simp only [STree.prefixL, Bool.and_eq_true] at h
        exact Nat.add_le_add (STree.prefixB_size c hc.1 d hd.1 h.1) (STree.prefixL_size cs hc.2 ds hd.2 h.2)
end

theorem STree.prefixB_antisymm_size (a b : STree) (ha : a.wf = true) (hb : b.wf = true)
    (h1 : a.prefixB b = true) (h2 : b.prefixB a = true) : a.size = b.size :=
  Nat.le_antisymm (STree.prefixB_size a ha b hb h1) (STree.prefixB_size b hb a ha h2)

end Optree
