/-
  Control flow in `Except` and `Option`, and a few facts about lists, with nothing of the model in them but its error
  type.  A guard chain `if c₁ then error e₁ else if c₂ then error e₂ else … k` is read backwards from a success (every
  check passed and `k` succeeded) and forwards to a failure; `Pairs`, a relation holding pointwise between two lists, is
  what a successful `mapM` leaves behind.
-/
import OptreeModel.Model.Basic

namespace Optree

theorem ite_error_eq_ok {ε α : Type} {p : Prop} [Decidable p] {e : ε} {k : Except ε α} {x : α} :
    (if p then .error e else k) = .ok x ↔ ¬ p ∧ k = .ok x := by
  split <;> simp [*]

theorem ite_ok_false_eq_ok_true {ε : Type} {p : Prop} [Decidable p] {k : Except ε Bool} :
    (if p then .ok false else k) = .ok true ↔ ¬ p ∧ k = .ok true := by
  split <;> simp [*]

theorem bne_error_eq_ok {ε α β : Type} [BEq β] [LawfulBEq β] {a b : β} {e : ε} {k : Except ε α} {x : α} :
    (if (a != b) = true then .error e else k) = .ok x ↔ a = b ∧ k = .ok x := by
  rw [ite_error_eq_ok, Bool.not_eq_true, bne_eq_false_iff_eq]

theorem Except.bind_eq_ok {ε α β : Type} {r : Except ε α} {k : α → Except ε β} {b : β} :
    r.bind k = .ok b ↔ ∃ a, r = .ok a ∧ k a = .ok b := by
  cases r <;> simp [Except.bind]

theorem Except.ite_bind {ε α β : Type} (c : Prop) [Decidable c] (a b : Except ε α) (k : α → Except ε β) :
    (if c then a else b).bind k = if c then a.bind k else b.bind k := by
  split <;> rfl

theorem mapM_eq_some_iff {α β : Type} {f : α → Option β} : ∀ {l : List α} {r : List β},
    l.mapM f = some r ↔ l.map f = r.map some
  | [], r => by cases r <;> simp
  | x :: l, r => by
      simp only [List.mapM_cons, Option.bind_eq_bind, Option.bind_eq_some_iff, Option.pure_def, Option.some.injEq,
        mapM_eq_some_iff (l := l)]
      constructor
      · rintro ⟨y, hy, ys, hys, rfl⟩
        simp [hy, hys]
      · intro h
        cases r with
        | nil => simp at h
        | cons y r =>
          simp only [List.map_cons, List.cons.injEq] at h
          exact ⟨y, h.1, r, h.2, rfl⟩

theorem mapM_option_length {α β : Type} {f : α → Option β} {l : List α} {r : List β}
    (h : l.mapM f = some r) : r.length = l.length := by
  simpa using (congrArg List.length (mapM_eq_some_iff.mp h)).symm

theorem mapM_filterMap {α β : Type} {f : α → Option β} {l : List α} {r : List β}
    (h : l.mapM f = some r) : l.filterMap f = r := by
  have := congrArg (List.filterMap id) (mapM_eq_some_iff.mp h)
  simpa [List.filterMap_map] using this

theorem mapM_getElem {α β : Type} {f : α → Option β} {l : List α} {r : List β}
    (h : l.mapM f = some r) {i : Nat} {a : α} {b : β} (ha : l[i]? = some a) (hb : r[i]? = some b) :
    f a = some b := by
  have := congrArg (·[i]?) (mapM_eq_some_iff.mp h)
  simpa [ha, hb] using this

theorem guard_pass {ε α : Type} {b : Bool} (h : b = true) (e : ε) (k : Except ε α) :
    (if (!b) = true then .error e else k) = k := by simp [h]

theorem ite_error_raises {ε α : Type} {p : Prop} [Decidable p] {e : ε} {k : Except ε α}
    (hk : ∃ e', k = .error e') : ∃ e', (if p then .error e else k) = .error e' := by
  split
  · exact ⟨e, rfl⟩
  · exact hk

theorem mapM_except_error_of_mem {ε α β : Type} (g : α → Except ε β) :
    ∀ (l : List α) (x : α), x ∈ l → (∃ e, g x = .error e) → ∃ e, l.mapM g = .error e := by
  intro l x h hx
  induction l with
  | nil => cases h
  | cons y l ih =>
    rw [List.mapM_cons]
    cases hy : g y with
    | error e => exact ⟨e, rfl⟩
    | ok v =>
      rcases List.mem_cons.1 h with rfl | h
      · obtain ⟨e, he⟩ := hx
        cases he.symm.trans hy
      · obtain ⟨e, he⟩ := ih h
        exact ⟨e, by rw [he]; rfl⟩

theorem mapM_map_except_ok {ε α β : Type} {f : β → Except ε α} {g : α → β} {l : List α}
    (h : ∀ a ∈ l, f (g a) = .ok a) : (l.map g).mapM f = .ok l := by
  induction l with
  | nil => rfl
  | cons a l ih =>
    rw [List.map_cons, List.mapM_cons, h a List.mem_cons_self, ih fun b hb => h b (List.mem_cons_of_mem a hb)]
    rfl

inductive Pairs {α β : Type} (R : α → β → Prop) : List α → List β → Prop
  | nil : Pairs R [] []
  | cons {a b as bs} : R a b → Pairs R as bs → Pairs R (a :: as) (b :: bs)

theorem Pairs.append {α β : Type} {R : α → β → Prop} {as bs : List α} {cs ds : List β}
    (h1 : Pairs R as cs) (h2 : Pairs R bs ds) : Pairs R (as ++ bs) (cs ++ ds) := by
  induction h1 with
  | nil => simpa using h2
  | cons h _ ih => exact Pairs.cons h ih

theorem Pairs.mono {α β : Type} {R S : α → β → Prop} {as : List α} {bs : List β}
    (h : Pairs R as bs) (hRS : ∀ a ∈ as, ∀ b, R a b → S a b) : Pairs S as bs := by
  induction h with
  | nil => exact Pairs.nil
  | cons h _ ih =>
    exact Pairs.cons (hRS _ (by simp) _ h) (ih (fun a ha b hr => hRS a (by simp [ha]) b hr))

theorem Pairs.length {α β : Type} {R : α → β → Prop} {as : List α} {bs : List β} (h : Pairs R as bs) :
    as.length = bs.length := by
  induction h with
  | nil => rfl
  | cons _ _ ih => simp [ih]

theorem Pairs.get {α β : Type} {R : α → β → Prop} {as : List α} {bs : List β} (h : Pairs R as bs) :
    ∀ (i : Nat) (a : α) (b : β), as[i]? = some a → bs[i]? = some b → R a b := by
  induction h with
  | nil => intro i a b h1; cases h1
  | cons h _ ih =>
    intro i a b h1 h2
    cases i with
    | zero => cases h1; cases h2; exact h
    | succ i => exact ih i a b h1 h2

theorem Pairs.of_mapM {ε α β : Type} {f : α → Except ε β} {R : α → β → Prop} (l : List α)
    (h : ∀ a ∈ l, ∃ b, f a = .ok b ∧ R a b) : ∃ bs, l.mapM f = .ok bs ∧ Pairs R l bs := by
  induction l with
  | nil => exact ⟨[], rfl, .nil⟩
  | cons a l ih =>
    obtain ⟨b, hb, hr⟩ := h a (List.mem_cons_self ..)
    obtain ⟨bs, hbs, hrs⟩ := ih fun a' ha' => h a' (List.mem_cons_of_mem _ ha')
    exact ⟨b :: bs, by rw [List.mapM_cons, hb, hbs]; rfl, .cons hr hrs⟩

theorem Pairs.map_eq {α β γ : Type} {R : α → β → Prop} {g : β → γ} {h : α → γ} {as : List α} {bs : List β}
    (hr : Pairs R as bs) (hgh : ∀ a b, R a b → g b = h a) : bs.map g = as.map h := by
  induction hr with
  | nil => rfl
  | cons hab _ ih => rw [List.map_cons, List.map_cons, hgh _ _ hab, ih]

/-- The list companion `f` of a Boolean predicate `g` defined by mutual recursion (`wfL` of `wf`, `tameKVs` of
`tame`, …) says that `g` holds of every member. -/
theorem all_rec_iff {α : Type} {g : α → Bool} {f : List α → Bool} (nil : f [] = true)
    (cons : ∀ x xs, f (x :: xs) = (g x && f xs)) (xs : List α) : f xs = true ↔ ∀ x ∈ xs, g x = true := by
  induction xs with
  | nil => simp [nil]
  | cons x xs ih => simp [cons, ih]

theorem List.snoc_induct {α : Type} {P : List α → Prop} (nil : P []) (snoc : ∀ l a, P l → P (l ++ [a])) (l : List α) :
    P l := by
  rw [← List.reverse_reverse l]
  induction l.reverse with
  | nil => exact nil
  | cons a t ih =>
    rw [List.reverse_cons]
    exact snoc _ _ ih

theorem List.exists_snoc_of_length_eq_add_one {α : Type} {l : List α} {n : Nat} (h : l.length = n + 1) :
    ∃ l' a, l = l' ++ [a] := by
  rcases List.eq_nil_or_concat l with rfl | ⟨l', a, rfl⟩
  · cases h
  · exact ⟨l', a, List.concat_eq_append⟩

theorem modify_at_length {α : Type} (O : List α) (x : α) (Y : List α) (f : α → α) :
    (O ++ x :: Y).modify O.length f = O ++ f x :: Y := by
  induction O with
  | nil => simp [List.modify]
  | cons o O ih => simp [ih]

theorem filterMap_congr {α β : Type} {f g : α → Option β} {l : List α}
    (h : ∀ x ∈ l, f x = g x) : l.filterMap f = l.filterMap g := by
  induction l with
  | nil => rfl
  | cons x l ih =>
    rw [List.filterMap_cons, List.filterMap_cons, h x List.mem_cons_self,
      ih fun y hy => h y (List.mem_cons_of_mem _ hy)]

theorem flatMap_congr_of_map {α β γ : Type} {k : α → β} {g : α → List γ} (hg : ∀ a b, k a = k b → g a = g b) :
    ∀ {xs ys : List α}, xs.map k = ys.map k → xs.flatMap g = ys.flatMap g
  | [], [], _ => rfl
  | [], _ :: _, h => nomatch h
  | _ :: _, [], h => nomatch h
  | x :: xs, y :: ys, h => by
      rw [List.map_cons, List.map_cons, List.cons.injEq] at h
      rw [List.flatMap_cons, List.flatMap_cons, hg x y h.1, flatMap_congr_of_map hg h.2]

theorem mapM_except_filterMap {ε α β γ : Type} (f : α → Except ε γ) (look : α → Option β)
    (h : β → γ) (l : List α) (H : ∀ k ∈ l, ∃ d, look k = some d ∧ f k = .ok (h d)) :
    l.mapM f = .ok ((l.filterMap look).map h) := by
  induction l with
  | nil => rfl
  | cons k l ih =>
    obtain ⟨d, hd, hp⟩ := H k List.mem_cons_self
    rw [List.mapM_cons, hp, ih fun k' hk' => H k' (List.mem_cons_of_mem _ hk'), List.filterMap_cons, hd]
    rfl

/-! Success as a Boolean and as a proposition: `okB` serves the equations between Boolean tests (`upTo_iff_prefix`),
`isOk` the equivalences with `prefix_errors` (`pe_agree`, `pe_full`); what is proved of one carries over by
`okB_eq_true`. -/

def okB {α : Type} : Except Err α → Bool
  | .ok _ => true
  | .error _ => false

@[simp] theorem okB_error {α : Type} (e : Err) : okB (Except.error e : Except Err α) = false := rfl
@[simp] theorem okB_ok {α : Type} (x : α) : okB (Except.ok x : Except Err α) = true := rfl

def isOk {α : Type} (r : Except Err α) : Prop := ∃ a, r = .ok a

theorem okB_eq_true {α : Type} {r : Except Err α} : okB r = true ↔ isOk r := by
  cases r <;> simp [isOk]

theorem okB_eq_false {α : Type} {r : Except Err α} : okB r = false ↔ ∃ e, r = .error e := by
  cases r <;> simp

theorem okB_bind {α β : Type} (r : Except Err α) (k : α → Except Err β) :
    okB (r.bind k) = match r with | .error _ => false | .ok a => okB (k a) := by
  cases r <;> rfl

end Optree
