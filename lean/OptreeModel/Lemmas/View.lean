/-
  One level of a tree, as every traversal of the model sees it.

  `flattenGo`, `flattenGoP`, `iterChildren`, and the reference functions `leavesOf`, `shapeOf`, `PyObj.wf` … are
  each written out over the eleven constructors of `PyObj`, but they all do one of three things: stop at a leaf, go
  through a built-in node, or go through an instance of a registered class.
  `PyObj.view` names that case distinction once.  Each function gets one equation that states it through
  the view (`…_view`, proved by a sweep over the constructors), and inductions over trees go by
  `PyObj.view_induct`: three cases, no unfolding of the model.  The skeleton, with `lobj` (Leaves.lean) as the shortest
  instance: `induction t using PyObj.view_induct cfg s with | _ t ih`, read the success backwards (`flattenGo_ok`,
  FlattenView.lean), then `cases hv : t.view cfg s <;> simp only [hv, View.kids] at h ih ⊢` leaves the three cases.

  Also here: the hypotheses most theorems about a tree share, `PyObj.wf` (with `PyObj.wf_iff_view`, its equation
  through the view) and `Registry.OK`.
-/
import OptreeModel.Lemmas.Dict
import OptreeModel.Lemmas.Control

namespace Optree

/-- What a traversal finds at an object once the depth guard and the `is_leaf` predicate have let it
through.  Children are listed in visiting order (dict kinds: sorted unless insertion-ordered). -/
inductive View where
  | leaf
  | node (kind : Kind) (data : NodeData) (okeys : Option (List Key)) (cs : List PyObj)
  | custom (reg : Reg) (md : Option Key) (q : Quirk) (cs : List PyObj)

def View.kids : View → List PyObj
  | .leaf => []
  | .node _ _ _ cs => cs
  | .custom _ _ _ cs => cs

def PyObj.view (cfg : Cfg) (sorted : Bool) : PyObj → View
  | .leaf _ _ => .leaf
  | .none => if cfg.noneIsLeaf then .leaf else .node .none .none Option.none []
  | .tuple xs => .node .tuple .none Option.none xs
  | .list xs => .node .list .none Option.none xs
  | .dict kvs =>
      let items := dictOrder false sorted kvs
      .node .dict (.keys (items.map (·.1))) (some (kvs.map (·.1))) (items.map (·.2))
  | .odict kvs => .node .ordereddict (.keys (kvs.map (·.1))) Option.none (kvs.map (·.2))
  | .ddict f kvs =>
      let items := dictOrder false sorted kvs
      .node .defaultdict (.ddict f (items.map (·.1))) (some (kvs.map (·.1))) (items.map (·.2))
  | .deque m xs => .node .deque (.maxlen m) Option.none xs
  | .ntuple cls xs =>
      match cfg.reg.lookup cfg.ns 1 cls with
      | some reg => .custom reg Option.none .ok xs
      | Option.none => .node .namedtuple (.cls cls) Option.none xs
  | .sseq cls xs =>
      match cfg.reg.lookup cfg.ns 2 cls with
      | some reg => .custom reg Option.none .ok xs
      | Option.none => .node .structseq (.cls cls) Option.none xs
  | .user cls md q xs =>
      match cfg.reg.lookup cfg.ns 0 cls with
      | some reg => .custom reg md q xs
      | Option.none => .leaf

/-- Induction over trees one level at a time: `P x` follows from `P` of every child a traversal visits. -/
theorem PyObj.view_induct (cfg : Cfg) (s : Bool) {P : PyObj → Prop}
    (h : ∀ x, (∀ c ∈ (x.view cfg s).kids, P c) → P x) (x : PyObj) : P x := by
  have seq : ∀ (xs : List PyObj) (v : View), v.kids = xs ∨ v.kids = [] → (∀ c ∈ xs, P c) →
      ∀ c ∈ v.kids, P c := by
    intro xs v hv ih c hc
    rcases hv with hv | hv <;> rw [hv] at hc
    · exact ih c hc
    · simp at hc
  have dic : ∀ kvs : List (Key × PyObj), (∀ p ∈ kvs, P p.2) →
      ∀ c ∈ (dictOrder false s kvs).map (·.2), P c := by
    intro kvs ih c hc
    obtain ⟨p, hp, rfl⟩ := mem_dictOrder_vals hc
    exact ih p hp
  -- `PyObj` is nested through `List PyObj` and `List (Key × PyObj)`, so its recursor has a motive for each of them
  -- and for the pair.  Its minor premises: the eleven constructors of `PyObj` in declaration order (`leaf` …
  -- `user`), then `nil` and `cons` of `List PyObj`, `nil` and `cons` of `List (Key × PyObj)`, and the pair.
  refine PyObj.rec (motive_1 := P) (motive_2 := fun xs => ∀ c ∈ xs, P c)
    (motive_3 := fun kvs => ∀ p ∈ kvs, P p.2) (motive_4 := fun p => P p.2)
    (fun _ _ => h _ (by simp [PyObj.view, View.kids]))
    (h _ (by cases hn : cfg.noneIsLeaf <;> simp [PyObj.view, View.kids, hn]))
    (fun xs ih => h _ ih) (fun xs ih => h _ ih)
    (fun kvs ih => h _ (dic kvs ih))
    (fun kvs ih => h _ (fun c hc => by
      obtain ⟨p, hp, rfl⟩ := List.mem_map.mp hc
      exact ih p hp))
    (fun f kvs ih => h _ (dic kvs ih))
    (fun m xs ih => h _ ih)
    (fun cls xs ih => h _ (seq xs _ (by simp only [PyObj.view]; split <;> simp [View.kids]) ih))
    (fun cls xs ih => h _ (seq xs _ (by simp only [PyObj.view]; split <;> simp [View.kids]) ih))
    (fun cls md q xs ih => h _ (seq xs _ (by simp only [PyObj.view]; split <;> simp [View.kids]) ih))
    (by simp) (fun a as ha ih c hc => by
      rcases List.mem_cons.mp hc with rfl | hc
      · exact ha
      · exact ih c hc)
    (by simp) (fun a as ha ih c hc => by
      rcases List.mem_cons.mp hc with rfl | hc
      · exact ha
      · exact ih c hc)
    (fun _ _ ih => ih) x

/-- the kind, data and number of children of the built-in nodes (`PyObj.view`) -/
inductive PlainNode : Kind → NodeData → Nat → Prop
  | none : PlainNode .none .none 0
  | tuple (n : Nat) : PlainNode .tuple .none n
  | list (n : Nat) : PlainNode .list .none n
  | deque (m : Option Nat) (n : Nat) : PlainNode .deque (.maxlen m) n
  | dict (ks : List Key) : PlainNode .dict (.keys ks) ks.length
  | odict (ks : List Key) : PlainNode .ordereddict (.keys ks) ks.length
  | ddict (f : Option Nat) (ks : List Key) : PlainNode .defaultdict (.ddict f ks) ks.length
  | ntuple (cls : TypeId) (n : Nat) : PlainNode .namedtuple (.cls cls) n
  | sseq (cls : TypeId) (n : Nat) : PlainNode .structseq (.cls cls) n

theorem PlainNode.ne_leaf {k : Kind} {data : NodeData} {n : Nat} (h : PlainNode k data n) : k ≠ .leaf := by
  cases h <;> simp

theorem PyObj.view_plain (cfg : Cfg) (s : Bool) (x : PyObj) :
    match x.view cfg s with
    | .node k data _ cs => PlainNode k data cs.length
    | _ => True := by
  cases x <;> simp only [PyObj.view]
  case none => cases cfg.noneIsLeaf <;> constructor
  case ntuple cls xs => cases cfg.reg.lookup cfg.ns 1 cls <;> constructor
  case sseq cls xs => cases cfg.reg.lookup cfg.ns 2 cls <;> constructor
  case user cls md q xs => cases cfg.reg.lookup cfg.ns 0 cls <;> trivial
  case dict kvs => simpa using PlainNode.dict ((dictOrder false s kvs).map (·.1))
  case odict kvs => simpa using PlainNode.odict (kvs.map (·.1))
  case ddict f kvs => simpa using PlainNode.ddict f ((dictOrder false s kvs).map (·.1))
  all_goals constructor

theorem getKind_view (cfg : Cfg) (s : Bool) (x : PyObj) :
    getKind cfg x =
      match x.view cfg s with
      | .leaf => (.leaf, Option.none)
      | .node k _ _ _ => (k, Option.none)
      | .custom reg _ _ _ => (.custom, some reg) := by
  cases x <;> simp only [getKind, PyObj.view]
  case none => cases cfg.noneIsLeaf <;> rfl
  case ntuple cls xs => cases cfg.reg.lookup cfg.ns 1 cls <;> rfl
  case sseq cls xs => cases cfg.reg.lookup cfg.ns 2 cls <;> rfl
  case user cls md q xs => cases cfg.reg.lookup cfg.ns 0 cls <;> rfl

/-- what the registered flatten function returns for an instance of a registered class -/
theorem customOut_view {cfg : Cfg} {s : Bool} {x : PyObj} {reg : Reg} {md : Option Key} {q : Quirk}
    {cs : List PyObj} (h : x.view cfg s = .custom reg md q cs) (r : Reg) :
    customOut r x = customOutOf r md q cs := by
  cases x <;> simp only [PyObj.view] at h <;> (try split at h) <;> cases h <;> rfl

/-- the entries under which `flatten_with_path` visits the children of a built-in node: the keys of a
dict kind, positions otherwise -/
def defaultEntriesOf (data : NodeData) (n : Nat) : List Key :=
  match data with
  | .keys ks | .ddict _ ks => ks
  | _ => intEntries n

theorem PlainNode.entries_length {k : Kind} {data : NodeData} {n : Nat} (h : PlainNode k data n) :
    (defaultEntriesOf data n).length = n := by
  cases h <;> simp [defaultEntriesOf, intEntries]

def maxlenOk (m : Option Nat) (n : Nat) : Bool :=
  match m with
  | Option.none => true
  | some k => decide (n ≤ k)

mutual
/-- dict keys pairwise distinct, deques within their `maxlen`, flatten functions well-behaved -/
def PyObj.wf : PyObj → Bool
  | .leaf _ _ => true
  | .none => true
  | .tuple xs => PyObj.wfList xs
  | .list xs => PyObj.wfList xs
  | .dict kvs => decide ((kvs.map (·.1)).Nodup) && PyObj.wfKVs kvs
  | .odict kvs => decide ((kvs.map (·.1)).Nodup) && PyObj.wfKVs kvs
  | .ddict _ kvs => decide ((kvs.map (·.1)).Nodup) && PyObj.wfKVs kvs
  | .deque m xs => maxlenOk m xs.length && PyObj.wfList xs
  | .ntuple _ xs => PyObj.wfList xs
  | .sseq _ xs => PyObj.wfList xs
  | .user _ _ q xs => (q == Quirk.ok) && PyObj.wfList xs
def PyObj.wfList : List PyObj → Bool
  | [] => true
  | x :: xs => PyObj.wf x && PyObj.wfList xs
def PyObj.wfKVs : List (Key × PyObj) → Bool
  | [] => true
  | (_, x) :: xs => PyObj.wf x && PyObj.wfKVs xs
end

/-- registrations are filed under their own class -/
def Registry.OK (r : Registry) : Prop :=
  ∀ ns ck cls reg, r.lookup ns ck cls = some reg → reg.cls = cls ∧ reg.clsKind = ck

theorem PyObj.wfList_iff (xs : List PyObj) : PyObj.wfList xs = true ↔ ∀ x ∈ xs, x.wf = true :=
  all_rec_iff rfl (fun _ _ => rfl) xs

theorem PyObj.wfKVs_iff (kvs : List (Key × PyObj)) : PyObj.wfKVs kvs = true ↔ ∀ p ∈ kvs, p.2.wf = true :=
  all_rec_iff (g := fun p : Key × PyObj => p.2.wf) rfl (fun _ _ => rfl) kvs

theorem PyObj.wfList_mem {xs : List PyObj} : PyObj.wfList xs = true → ∀ x ∈ xs, x.wf = true :=
  (PyObj.wfList_iff xs).mp

theorem PyObj.wfKVs_mem {kvs : List (Key × PyObj)} : PyObj.wfKVs kvs = true → ∀ p ∈ kvs, p.2.wf = true :=
  (PyObj.wfKVs_iff kvs).mp

/-- what `PyObj.wf` asks of a built-in node with `n` children besides well-formed children -/
def NodeData.wfFor (n : Nat) : NodeData → Prop
  | .keys ks | .ddict _ ks => ks.Nodup
  | .maxlen m => maxlenOk m n = true
  | _ => True

/-- `PyObj.wf` through the view.  (An instance of an unregistered class is a leaf, and `wf` still looks into
it: no statement for leaves.) -/
theorem PyObj.wf_iff_view (cfg : Cfg) (s : Bool) (x : PyObj) :
    match x.view cfg s with
    | .leaf => True
    | .node _ data _ cs => (x.wf = true ↔ data.wfFor cs.length ∧ ∀ c ∈ cs, c.wf = true)
    | .custom _ _ q cs => (x.wf = true ↔ q = .ok ∧ ∀ c ∈ cs, c.wf = true) := by
  have dic : ∀ kvs : List (Key × PyObj), ((kvs.map (·.1)).Nodup ∧ ∀ p ∈ kvs, p.2.wf = true) ↔
      ((dictOrder false s kvs).map (·.1)).Nodup ∧ ∀ c ∈ (dictOrder false s kvs).map (·.2), c.wf = true :=
    fun kvs => and_congr ((dictOrder_perm false s kvs).map _).nodup_iff.symm
      ⟨fun h c hc => let ⟨p, hp, e⟩ := mem_dictOrder_vals hc; e ▸ h p hp,
       fun h p hp => h p.2 (List.mem_map_of_mem ((dictOrder_perm false s kvs).mem_iff.mpr hp))⟩
  cases x <;> rw [PyObj.view]
  case leaf => trivial
  case none => cases cfg.noneIsLeaf <;> simp [PyObj.wf, NodeData.wfFor]
  case ntuple cls xs =>
    cases cfg.reg.lookup cfg.ns 1 cls <;> simp only [PyObj.wf, PyObj.wfList_iff, NodeData.wfFor, true_and]
  case sseq cls xs =>
    cases cfg.reg.lookup cfg.ns 2 cls <;> simp only [PyObj.wf, PyObj.wfList_iff, NodeData.wfFor, true_and]
  case user cls md q xs =>
    cases cfg.reg.lookup cfg.ns 0 cls <;> simp only [PyObj.wf, PyObj.wfList_iff, Bool.and_eq_true, beq_iff_eq]
  case dict kvs | ddict f kvs =>
    simpa only [PyObj.wf, PyObj.wfKVs_iff, Bool.and_eq_true, decide_eq_true_eq, NodeData.wfFor] using dic kvs
  all_goals
    simp only [PyObj.wf, PyObj.wfList_iff, PyObj.wfKVs_iff, NodeData.wfFor, Bool.and_eq_true, decide_eq_true_eq,
      true_and, List.forall_mem_map]

theorem PyObj.wf_kids (cfg : Cfg) (s : Bool) {x : PyObj} (hwf : x.wf = true) :
    ∀ c ∈ (x.view cfg s).kids, c.wf = true := by
  have h := PyObj.wf_iff_view cfg s x
  cases hv : x.view cfg s <;> rw [hv] at h
  · nofun
  · exact (h.mp hwf).2
  · exact (h.mp hwf).2

theorem PyObj.wf_quirk {cfg : Cfg} {s : Bool} {x : PyObj} {reg : Reg} {md : Option Key} {q : Quirk}
    {cs : List PyObj} (hwf : x.wf = true) (hv : x.view cfg s = .custom reg md q cs) : q = .ok := by
  have h := PyObj.wf_iff_view cfg s x
  rw [hv] at h
  exact (h.mp hwf).1

/-- decidable sufficient condition for `Registry.OK`: every table row is filed under the class and
class kind recorded in its registration -/
def Registry.okB (r : Registry) : Bool :=
  r.global.all (fun e => e.2.2.cls == e.1 && e.2.2.clsKind == e.2.1) &&
  r.named.all (fun e => e.2.2.2.cls == e.2.1 && e.2.2.2.clsKind == e.2.2.1)

theorem Registry.OK_of_okB (r : Registry) (h : r.okB = true) : r.OK := by
  simp only [Registry.okB, Bool.and_eq_true, List.all_eq_true, beq_iff_eq] at h
  obtain ⟨hg, hn⟩ := h
  intro ns ck cls reg hl
  unfold Registry.lookup at hl
  simp only at hl
  -- the row `find?` returns is a row of the table and passes the test it was found by
  split at hl
  · rename_i reg' hr
    cases hl
    split at hr
    · obtain ⟨e, he, rfl⟩ := Option.map_eq_some_iff.mp hr
      have hp := List.find?_some he
      simp only [Bool.and_eq_true, beq_iff_eq] at hp
      have := hn e (List.mem_of_find?_eq_some he)
      exact ⟨this.1.trans hp.1.2, this.2.trans hp.2⟩
    · cases hr
  · obtain ⟨e, he, rfl⟩ := Option.map_eq_some_iff.mp hl
    have hp := List.find?_some he
    simp only [Bool.and_eq_true, beq_iff_eq] at hp
    have := hg e (List.mem_of_find?_eq_some he)
    exact ⟨this.1.trans hp.1, this.2.trans hp.2⟩

end Optree
