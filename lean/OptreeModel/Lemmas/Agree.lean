/-
  The other traversals against `flatten` (for C03, C05, C16): `flatten_with_path` returns the same leaves, node records,
  custom flag and errors (`aobj`), and the lazy iterator yields the leaves `flatten` returns, in the same order (`iobj`).
-/
import OptreeModel.Lemmas.FlattenView

namespace Optree

/-! ### `flatten_with_path`

On trees whose custom flatten functions are well-behaved.  At a node `flattenGoP` and `flattenGo` both sequence
their children's results and close the node; `flattenGoP` visits each child under an entry, which the erasure
forgets, so all that matters is that there are as many entries as children. -/

def FlatOutP.erase (o : FlatOutP) : FlatOut := ⟨o.leaves.map (·.2), o.nodes, o.custom⟩

def eraseR (r : Except Err FlatOutP) : Except Err FlatOut :=
  match r with
  | .ok o => .ok o.erase
  | .error e => .error e

theorem seqOuts_erase (rs : List (Except Err FlatOutP)) :
    seqOuts (rs.map eraseR) = eraseR (seqOutsP rs) := by
  induction rs with
  | nil => rfl
  | cons r rs ih =>
    simp only [List.map_cons, seqOuts, seqOutsP]
    cases r with
    | error e => rfl
    | ok a =>
      simp only [eraseR]
      rw [ih]
      cases seqOutsP rs with
      | error e => rfl
      | ok b => simp [eraseR, FlatOutP.erase, FlatOut.append, FlatOutP.append]

theorem close_erase (b : FlatOutP) (kind : Kind) (arity : Nat) (data : NodeData)
    (entries : Option (List Key)) (custom : Option Reg) (okeys : Option (List Key)) (fc : Bool) :
    (b.close kind arity data entries custom okeys fc).erase =
      b.erase.close kind arity data entries custom okeys fc := by
  simp [FlatOutP.close, FlatOut.close, FlatOutP.erase]

theorem seqClose_erase (rs : List (Except Err FlatOutP)) (kind : Kind) (arity : Nat)
    (data : NodeData) (entries : Option (List Key)) (custom : Option Reg) (okeys : Option (List Key))
    (fc : Bool) :
    (match seqOuts (rs.map eraseR) with
      | .error e => .error e
      | .ok b => .ok (b.close kind arity data entries custom okeys fc)) =
    eraseR (match seqOutsP rs with
      | .error e => .error e
      | .ok b => .ok (b.close kind arity data entries custom okeys fc)) := by
  rw [seqOuts_erase]
  cases seqOutsP rs with
  | error e => rfl
  | ok b => simp [eraseR, close_erase]

theorem under_erase {cfg : Cfg} {s : Bool} {cs : List PyObj}
    (ih : ∀ c ∈ cs, ∀ d path, eraseR (flattenGoP cfg s d path c) = flattenGo cfg s d c) (d : Nat)
    (path : List Key) : ∀ es : List Key, es.length = cs.length →
      (List.zipWith (fun e c => flattenGoP cfg s d (path ++ [e]) c) es cs).map eraseR =
        cs.map (flattenGo cfg s d) := by
  induction cs with
  | nil => intro es _; simp
  | cons c cs ihc =>
    intro es hlen
    cases es with
    | nil => simp at hlen
    | cons e es =>
      simp only [List.zipWith_cons_cons, List.map_cons]
      rw [ih c (by simp), ihc (fun y hy => ih y (by simp [hy])) es (by simpa using hlen)]

/-- `tree_flatten_with_path` against `tree_flatten`, at any subtree whose flatten functions are well-behaved, any
depth and any path so far: without the paths, `flattenGoP` returns what `flattenGo` returns, the same leaves,
records and custom flag or the same error. -/
theorem aobj (cfg : Cfg) (s : Bool) (t : PyObj) :
    t.wf = true → ∀ d path, eraseR (flattenGoP cfg s d path t) = flattenGo cfg s d t := by
  induction t using PyObj.view_induct cfg s with | _ t ih
  intro hwf d path
  have ih := fun c hc => ih c hc (PyObj.wf_kids cfg s hwf c hc)
  have hn := PyObj.view_plain cfg s t
  rw [flattenGoP_view, flattenGo_view]
  -- the depth guard and the predicate are the same on both sides
  split; · rfl
  split <;> try rfl
  cases hv : t.view cfg s <;> simp only [hv, View.kids] at ih hn ⊢
  case leaf => rfl
  case node k data ok cs =>
    rw [← under_erase ih (d + 1) path _ hn.entries_length]
    exact (seqClose_erase ..).symm
  case custom reg md q cs =>
    obtain rfl := PyObj.wf_quirk hwf hv
    rw [customFlattenP_regEntries, customFlatten_regEntries reg md cs _ (List.length_map ..),
      ← under_erase ih (d + 1) path _ (customEntries_getD_length reg cs.length)]
    exact (seqClose_erase ..).symm

/-- the statement of `aobj`, for `akvs` -/
def Aobj (cfg : Cfg) (s : Bool) (t : PyObj) : Prop :=
  ∀ d path, eraseR (flattenGoP cfg s d path t) = flattenGo cfg s d t

theorem akvs (cfg : Cfg) (s : Bool) :
    ∀ kvs : List (Key × PyObj), PyObj.wfKVs kvs = true → ∀ p ∈ kvs, Aobj cfg s p.2 :=
  fun _ h p hp => aobj cfg s p.2 (PyObj.wfKVs_mem h p hp)

def dropPaths : Except Err (List (List Key) × List PyObj × Spec) → Except Err (List PyObj × Spec)
  | .ok (_, ls, sp) => .ok (ls, sp)
  | .error e => .error e

/-- `aobj` at the root: `flatten_with_path` without its paths is `flatten`, result or error -/
theorem dropPaths_flattenWithPath (cfg : Cfg) (t : PyObj) (hwf : t.wf = true) :
    dropPaths (flattenWithPath cfg t) = flatten cfg t := by
  unfold flattenWithPath flatten
  simp only
  rw [← aobj cfg (!cfg.insertionOrdered) t hwf 0 []]
  cases flattenGoP cfg (!cfg.insertionOrdered) 0 [] t <;> rfl

theorem flatten_of_flattenWithPath {cfg : Cfg} {t : PyObj} (hwf : t.wf = true) {ps : List (List Key)}
    {ls : List PyObj} {sp : Spec} (h : flattenWithPath cfg t = .ok (ps, ls, sp)) : flatten cfg t = .ok (ls, sp) := by
  rw [← dropPaths_flattenWithPath cfg t hwf, h]
  rfl

/-! ### the lazy iterator

`iterRun` pops an object off the agenda and pushes its children; `flattenGo` sequences the children's
results.  By induction over a successful `seqOuts`, running the agenda over the pushed children appends
the leaves of the sequenced result; `PyObj.size` pays for the pops. -/

theorem sizeList_perm {l1 l2 : List PyObj} (h : l1.Perm l2) : PyObj.sizeList l1 = PyObj.sizeList l2 := by
  induction h with
  | nil => rfl
  | cons x _ ih => simp [PyObj.sizeList, ih]
  | swap x y l => simp only [PyObj.sizeList]; omega
  | trans _ _ ih1 ih2 => exact ih1.trans ih2

theorem sizeKVs_eq (kvs : List (Key × PyObj)) : PyObj.sizeKVs kvs = PyObj.sizeList (kvs.map (·.2)) := by
  induction kvs with
  | nil => rfl
  | cons p kvs ih => obtain ⟨k, x⟩ := p; simp [PyObj.sizeKVs, PyObj.sizeList, ih]

/-- `size` pays for the object and the children a traversal visits (it also counts the children of an
unregistered `user` object, which is a leaf) -/
theorem PyObj.size_kids (cfg : Cfg) (s : Bool) (x : PyObj) :
    1 + PyObj.sizeList (x.view cfg s).kids ≤ x.size := by
  cases x <;> simp only [PyObj.view, PyObj.size, sizeKVs_eq]
  case none => cases cfg.noneIsLeaf <;> exact Nat.le_refl _
  case dict kvs => exact Nat.le_of_eq (congrArg _ (sizeList_perm ((dictOrder_perm false s kvs).map _)))
  case ddict f kvs => exact Nat.le_of_eq (congrArg _ (sizeList_perm ((dictOrder_perm false s kvs).map _)))
  case ntuple cls xs => cases cfg.reg.lookup cfg.ns 1 cls <;> exact Nat.le_refl _
  case sseq cls xs => cases cfg.reg.lookup cfg.ns 2 cls <;> exact Nat.le_refl _
  case user cls md q xs => cases cfg.reg.lookup cfg.ns 0 cls <;> simp [View.kids, PyObj.sizeList]
  all_goals exact Nat.le_refl _

theorem iterChildren_view (cfg : Cfg) (s : Bool) (x : PyObj) :
    iterChildren cfg s x =
      match x.view cfg s with
      | .leaf => .ok Option.none
      | .node _ _ _ cs => .ok (some cs)
      | .custom reg md q cs => iterCustomChildren (customOutOf reg md q cs) := by
  cases x <;> simp only [iterChildren, PyObj.view, getKind, customOut, customParts]
  case none => cases cfg.noneIsLeaf <;> rfl
  case ntuple cls xs => cases cfg.reg.lookup cfg.ns 1 cls <;> rfl
  case sseq cls xs => cases cfg.reg.lookup cfg.ns 2 cls <;> rfl
  case user cls md q xs => cases cfg.reg.lookup cfg.ns 0 cls <;> rfl

/-- one object's share of a run of the agenda: the statement of `iobj` -/
def Iobj (cfg : Cfg) (s : Bool) (t : PyObj) : Prop :=
  ∀ d out, flattenGo cfg s d t = .ok out →
    ∀ fuel agenda acc, fuel ≥ t.size →
      ∃ fuel', fuel' + t.size ≥ fuel ∧
        iterRun cfg s fuel ((t, d) :: agenda) acc = iterRun cfg s fuel' agenda (out.leaves.reverse ++ acc)

theorem iterRun_children {cfg : Cfg} {s : Bool} {d : Nat} {cs : List PyObj} {b : FlatOut}
    (ih : ∀ c ∈ cs, Iobj cfg s c) (hb : seqOuts (cs.map (flattenGo cfg s d)) = .ok b)
    (fuel : Nat) (agenda : List (PyObj × Nat)) (acc : List PyObj) (hf : fuel ≥ PyObj.sizeList cs) :
    ∃ fuel', fuel' + PyObj.sizeList cs ≥ fuel ∧
      iterRun cfg s fuel (cs.map (·, d) ++ agenda) acc =
        iterRun cfg s fuel' agenda (b.leaves.reverse ++ acc) := by
  revert fuel acc
  refine seqOuts_induct
    (Q := fun cs b => ∀ fuel acc, fuel ≥ PyObj.sizeList cs →
      ∃ fuel', fuel' + PyObj.sizeList cs ≥ fuel ∧
        iterRun cfg s fuel (cs.map (·, d) ++ agenda) acc =
          iterRun cfg s fuel' agenda (b.leaves.reverse ++ acc))
    (fun fuel acc _ => ⟨fuel, Nat.le_add_right .., rfl⟩) ?_ (fun c hc o ho => ih c hc d o ho) hb
  intro c cs a b hc hcs fuel acc hf
  simp only [PyObj.sizeList] at hf ⊢
  obtain ⟨f1, hf1, e1⟩ := hc fuel (cs.map (·, d) ++ agenda) acc (by omega)
  obtain ⟨f2, hf2, e2⟩ := hcs f1 (a.leaves.reverse ++ acc) (by omega)
  refine ⟨f2, by omega, ?_⟩
  simp only [List.map_cons, List.cons_append]
  rw [e1, e2]
  simp [FlatOut.append]

theorem customOutOf_children {reg : Reg} {md : Option Key} {q : Quirk} {xs cs : List PyObj}
    (h : (customOutOf reg md q xs).children = some cs) : cs = xs := by
  cases q <;> simp [customOutOf] at h <;> exact h.symm

/-- the iterator validates what a flatten function returned as `flattenGo` does -/
theorem iterCustomChildren_of_flatten {reg : Reg} {md : Option Key} {q : Quirk} {cs : List PyObj}
    {rs : List (Except Err FlatOut)} {out : FlatOut} (hlen : rs.length = cs.length)
    (h : customFlatten reg (customOutOf reg md q cs) rs = .ok out) :
    iterCustomChildren (customOutOf reg md q cs) = .ok (some cs) := by
  unfold customFlatten at h
  unfold iterCustomChildren
  split at h; · cases h
  rename_i hnum
  rw [if_neg hnum]
  cases hch : (customOutOf reg md q cs).children with
  | none => rw [hch] at h; cases h
  | some cs' =>
    obtain rfl := customOutOf_children hch
    simp only [hch, hlen] at h ⊢
    split at h; · cases h
    generalize ((customOutOf reg md q cs').numOut == 3) = n3 at h ⊢
    generalize (customOutOf reg md q cs').entries = E at h ⊢
    cases n3
    · rfl
    cases E with
    | absent | noneVal => rfl
    | nonIter => cases h
    | tuple ks => by_cases hl : (ks.length != cs'.length) = true <;> simp [hl] at h ⊢

/-- `tree_iter` yields the leaves of `tree_flatten`: whenever `flattenGo` succeeds on `t`, popping `t` off the
agenda and running until the agenda is back to what was below it appends exactly the leaves `flattenGo` returns
for `t`, and uses up at most `t.size` of the fuel. -/
theorem iobj (cfg : Cfg) (s : Bool) (t : PyObj) : Iobj cfg s t := by
  induction t using PyObj.view_induct cfg s with | _ t ih
  intro d out h fuel agenda acc hf
  have hsz := PyObj.size_kids cfg s t
  obtain ⟨f, rfl⟩ : ∃ f, fuel = f + 1 := ⟨fuel - 1, by omega⟩
  -- one pop for `t`; the rest of the fuel pays for the children
  have hpop : f + t.size ≥ f + 1 := by omega
  have hkids : f ≥ PyObj.sizeList (t.view cfg s).kids := by omega
  have hback : ∀ f', f' + PyObj.sizeList (t.view cfg s).kids ≥ f → f' + t.size ≥ f + 1 := fun f' h => by omega
  obtain ⟨hd, ⟨hp, rfl⟩ | ⟨hp, h⟩⟩ := flattenGo_ok h
  · exact ⟨f, hpop, by simp [iterRun, hd, hp, leafOut]⟩
  simp only [iterRun, hd, hp, iterChildren_view, if_false]
  cases hv : t.view cfg s <;> simp only [hv, View.kids] at h ih hkids hback ⊢
  case leaf => cases h; exact ⟨f, hpop, by simp [leafOut]⟩
  case node k data ok cs =>
    obtain ⟨b, hb, rfl⟩ := closeSeq_ok h
    obtain ⟨f', hf', e⟩ := iterRun_children ih hb f agenda acc hkids
    exact ⟨f', hback f' hf', e⟩
  case custom reg md q cs =>
    rw [iterCustomChildren_of_flatten (List.length_map ..) h]
    obtain ⟨b, _, hb, rfl⟩ := customFlatten_ok h
    obtain ⟨f', hf', e⟩ := iterRun_children ih hb f agenda acc hkids
    exact ⟨f', hback f' hf', e⟩

theorem ikvs (cfg : Cfg) (s : Bool) : ∀ kvs : List (Key × PyObj), ∀ p ∈ kvs, Iobj cfg s p.2 :=
  fun _ p _ => iobj cfg s p.2

end Optree
