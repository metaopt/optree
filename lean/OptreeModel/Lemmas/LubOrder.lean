/-
  The tree-level least common suffix `STree.lub` (C09): normal form and order theory.

  At a pair of internal nodes `lub` is "node-level compatibility (`NInfo.lubC`, Compat.lean) ∧ `lubL` on the children
  lists, the second re-paired by `alignC`": `STree.lub_nf`, the twin of `STree.prefixB_nf` (PrefixOrder.lean).  On the
  two normal forms, with `lubC` against `preC` from Compat.lean and no bound on size or nesting: `lub_extends_right`,
  `lub_least`, `lub_wf`.  That the first operand is a prefix of the merged shape, and that `lub` is idempotent, is
  proved in C09.lean (`C09_lub_extends_left`, `C09_lub_idem`).
-/
import OptreeModel.Lemmas.PrefixOrder

namespace Optree

mutual
/-- every node's payload fits its kind (`NInfo.fits`) -/
def STree.fitsT : STree → Bool
  | .leaf => true
  | .node i cs => i.fits && STree.fitsL cs
def STree.fitsL : List STree → Bool
  | [] => true
  | c :: cs => c.fitsT && STree.fitsL cs
end

theorem STree.fitsL_cons {c : STree} {cs : List STree} :
    STree.fitsL (c :: cs) = true ↔ c.fitsT = true ∧ STree.fitsL cs = true := by
  rw [STree.fitsL, Bool.and_eq_true]

theorem STree.fitsL_iff (cs : List STree) : STree.fitsL cs = true ↔ ∀ c ∈ cs, c.fitsT = true :=
  all_rec_iff rfl (fun _ _ => rfl) cs

theorem STree.fitsL_snoc (cs : List STree) (c : STree) :
    STree.fitsL (cs ++ [c]) = true ↔ STree.fitsL cs = true ∧ c.fitsT = true := by
  rw [STree.fitsL_iff, List.forall_mem_append, ← STree.fitsL_iff, List.forall_mem_singleton]

theorem STree.fitsL_subset {xs ys : List STree} (h : xs ⊆ ys) (hf : STree.fitsL ys = true) : STree.fitsL xs = true :=
  (STree.fitsL_iff xs).mpr fun c hc => (STree.fitsL_iff ys).mp hf c (h hc)

theorem STree.lubL_cons (c d : STree) (cs ds : List STree) :
    STree.lubL (c :: cs) (d :: ds) = (c.lub d).bind fun x => (STree.lubL cs ds).map (x :: ·) := by
  rw [STree.lubL]
  cases c.lub d <;> cases STree.lubL cs ds <;> rfl

theorem STree.lubL_cons_some {c d : STree} {cs ds rc : List STree}
    (h : STree.lubL (c :: cs) (d :: ds) = some rc) :
    ∃ x xs, c.lub d = some x ∧ STree.lubL cs ds = some xs ∧ rc = x :: xs := by
  simp only [STree.lubL_cons, Option.bind_eq_some_iff, Option.map_eq_some_iff] at h
  obtain ⟨x, h1, xs, h2, rfl⟩ := h
  exact ⟨x, xs, h1, h2, rfl⟩

theorem STree.lubL_length : ∀ (cs ds rc : List STree), STree.lubL cs ds = some rc →
    rc.length = cs.length ∧ cs.length = ds.length := by
  intro cs
  induction cs with
  | nil =>
    intro ds rc h
    cases ds with
    | nil => cases h; exact ⟨rfl, rfl⟩
    | cons d ds => cases h
  | cons c cs ih =>
    intro ds rc h
    cases ds with
    | nil => cases h
    | cons d ds =>
      obtain ⟨x, xs, -, h2, rfl⟩ := STree.lubL_cons_some h
      obtain ⟨h3, h4⟩ := ih ds xs h2
      exact ⟨congrArg (· + 1) h3, congrArg (· + 1) h4⟩

/-- the last pair first, as the child loops meet it -/
theorem STree.lubL_snoc : ∀ (xs ys : List STree) (x y : STree), xs.length = ys.length →
    STree.lubL (xs ++ [x]) (ys ++ [y]) =
      (x.lub y).bind fun c => (STree.lubL xs ys).map fun r => r ++ [c] := by
  intro xs
  induction xs with
  | nil =>
    intro ys x y h
    obtain rfl := List.length_eq_zero_iff.mp h.symm
    rw [List.nil_append, List.nil_append, STree.lubL_cons]
    cases x.lub y <;> rfl
  | cons a xs ih =>
    intro ys x y h
    obtain ⟨b, ys, rfl⟩ := List.exists_cons_of_length_eq_add_one h.symm
    rw [List.cons_append, List.cons_append, STree.lubL_cons, STree.lubL_cons, ih ys x y (Nat.succ.inj h)]
    cases a.lub b <;> cases STree.lubL xs ys <;> cases x.lub y <;> rfl

theorem STree.lubD_eq (oks : List Key) (ds : List STree) (hlen : oks.length = ds.length) :
    ∀ (ks : List Key) (cs : List STree), ks.length = cs.length → (∀ k ∈ ks, k ∈ oks) →
      STree.lubD ks cs oks ds = STree.lubL cs (pickD ks oks ds) :=
  byKey_eq_byPos oks ds hlen (STree.lubD · · oks ds) STree.lubL
    (fun c d r => (c.lub d).bind fun x => r.map (x :: ·)) rfl
    (fun _ ks c cs d h => by rw [STree.lubD, h]; dsimp only; cases c.lub d <;> cases STree.lubD ks cs oks ds <;> rfl)
    fun _ _ _ _ => STree.lubL_cons ..

/-! The rows of tests `lub` has for the classes of kinds, each read as one test. -/

theorem tests_seq {α : Type} (ke le : Bool) (x : Option α) :
    (if (!ke || !le) = true then none else x) = if (ke && le) = true then x else none := by
  cases ke
  · rfl
  cases le <;> rfl

theorem tests_data {α : Type} (ke le de : Bool) (x : Option α) :
    (if (!ke || !le || !de) = true then none else x) = if (ke && de && le) = true then x else none := by
  cases ke
  · rfl
  cases le <;> cases de <;> rfl

theorem tests_dict {α : Type} (jd ks le : Bool) (x y : Option α) (h : jd = true → ks = true → le = true ∧ x = y) :
    (if (!jd || !ks) = true then none else x) = if (jd && ks && le) = true then y else none := by
  cases jd
  · rfl
  cases ks
  · rfl
  obtain ⟨rfl, rfl⟩ := h rfl rfl
  rfl

theorem tests_custom {α : Type} (kc le de : Bool) (c c' : Option Reg) (x : Option α) :
    (match c, c' with
      | some r, some r' =>
          if (!kc || !(r.cls == r'.cls) || !(r.clsKind == r'.clsKind) || !le || !de) = true then none else x
      | _, _ => none) =
      if ((match c, c' with
          | some r, some r' => kc && r.cls == r'.cls && r.clsKind == r'.clsKind && de
          | _, _ => false) && le) = true then x
        else none := by
  cases c with
  | none => rfl
  | some r =>
    cases c' with
    | none => rfl
    | some r' =>
      -- the tests on the registrations sit under the `match`; it is reduced with `cond` for `if`, so that no
      -- `Decidable` instance keeps the old form
      simp only [← Bool.cond_eq_ite]
      cases kc
      · rfl
      cases (r.cls == r'.cls)
      · rfl
      cases (r.clsKind == r'.clsKind)
      · rfl
      cases le <;> cases de <;> rfl

theorem STree.lub_nf (i j : NInfo) (cs ds : List STree) (ha : (STree.node i cs).wf = true)
    (hb : (STree.node j ds).wf = true) :
    (STree.node i cs).lub (.node j ds) =
      if i.lubC j && cs.length == ds.length then (STree.lubL cs (alignC i j ds)).map (.node i)
      else Option.none := by
  obtain ⟨hnl, hnone, hdi, _⟩ := STree.wf_node ha
  obtain ⟨_, hnonej, hdj, _⟩ := STree.wf_node hb
  -- between dict kinds with the same keys: `lubD` is `lubL` after re-pairing, and the arities agree
  have hD : i.kind.isDict = true → j.kind.isDict = true → keySetEq i.keys j.keys = true →
      (cs.length == ds.length) = true ∧
        STree.lubD i.keys cs j.keys ds = STree.lubL cs (pickD i.keys j.keys ds) := fun hid hjd hks =>
    ⟨by rw [beq_iff_eq, ← (hdi hid).1, ← (hdj hjd).1]; exact keySetEq_length hks,
      STree.lubD_eq j.keys ds (hdj hjd).1 i.keys cs (hdi hid).1 (keySetEq_mem hks)⟩
  rw [STree.lub, NInfo.lubC, alignC]
  -- per kind, the row of tests on the left is the one test on the right
  cases hk : i.kind with
  | leaf => exact absurd hk hnl
  | none =>
    obtain rfl := hnone hk
    -- `lub` tests `j.kind != none`, the right side `j.kind == none`: with `!=` written as `!(· == ·)`, in the
    -- `Decidable` instances too, one case split on that Boolean decides both
    delta bne
    cases hjn : j.kind == Kind.none with
    | false => rfl
    | true =>
      obtain rfl := hnonej (eq_of_beq hjn)
      rfl
  | tuple | list | deque => exact tests_seq ..
  | namedtuple | structseq => exact tests_data ..
  | custom => exact tests_custom ..
  | dict | ordereddict | defaultdict =>
    exact tests_dict _ _ _ _ _ fun hjd hks =>
      have ⟨hl, e⟩ := hD (by rw [hk]; rfl) hjd hks
      ⟨hl, congrArg (Option.map (STree.node i)) e⟩

theorem STree.lub_node_some {i j : NInfo} {cs ds : List STree} {c : STree} (ha : (STree.node i cs).wf = true)
    (hb : (STree.node j ds).wf = true) (h : (STree.node i cs).lub (.node j ds) = some c) :
    i.lubC j = true ∧ cs.length = ds.length ∧
      ∃ rc, STree.lubL cs (alignC i j ds) = some rc ∧ rc.length = cs.length ∧ c = .node i rc := by
  rw [STree.lub_nf i j cs ds ha hb] at h
  split at h
  case isFalse => cases h
  rename_i hC
  obtain ⟨hC, hlen⟩ : i.lubC j = true ∧ cs.length = ds.length := by simpa using hC
  cases hl : STree.lubL cs (alignC i j ds) with
  | none => rw [hl] at h; cases h
  | some rc =>
    rw [hl] at h
    exact ⟨hC, hlen, rc, rfl, (STree.lubL_length cs _ rc hl).1, (Option.some.inj h).symm⟩

/-! ### re-pairing by key, both ways -/

theorem lookupChild_pickD (jk : List Key) (ds : List STree) (hlen : jk.length = ds.length) (k : Key)
    (ik : List Key) (hm : ∀ k' ∈ ik, k' ∈ jk) (hk : k ∈ ik) :
    lookupChild k ik (pickD ik jk ds) = lookupChild k jk ds := by
  induction ik with
  | nil => cases hk
  | cons k0 ik ih =>
    obtain ⟨-, d0, -, -, hl0⟩ := lookupChild_of_mem hlen (hm k0 List.mem_cons_self)
    rw [pickD_cons k0 ik jk ds _ hl0, lookupChild]
    by_cases h0 : (k0 == k) = true
    · rw [if_pos h0, ← eq_of_beq h0, hl0]
    · rw [if_neg h0]
      exact ih (fun k' hk' => hm k' (List.mem_cons_of_mem _ hk'))
        ((List.mem_cons.mp hk).resolve_left fun e => h0 (e ▸ beq_self_eq_true k))

theorem pickD_inv {ik jk : List Key} {ds : List STree} (hks : keySetEq ik jk = true) (hni : ik.Nodup)
    (hnj : jk.Nodup) (hlen : jk.length = ds.length) : pickD jk ik (pickD ik jk ds) = ds := by
  have hp := keys_perm hks hni
  have hm := ((keySetEq_iff _ _).mp hks).2
  have : pickD jk ik (pickD ik jk ds) = pickD jk jk ds := by
    unfold pickD
    apply filterMap_congr
    intro k hk
    exact lookupChild_pickD jk ds hlen k ik hm (hp.mem_iff.mpr hk)
  rw [this, pickD_self jk ds hlen hnj]

theorem prefixL_unpick {ik jk : List Key} {ds rc : List STree} (hks : keySetEq ik jk = true) (hni : ik.Nodup)
    (hnj : jk.Nodup) (hlen : jk.length = ds.length) (hlr : ik.length = rc.length)
    (h : STree.prefixL (pickD ik jk ds) rc = true) : STree.prefixL ds (pickD jk ik rc) = true := by
  have hm := ((keySetEq_iff _ _).mp hks).2
  have hm' := ((keySetEq_iff _ _).mp (keySetEq_symm hks hni)).2
  have hpl : ik.length = (pickD ik jk ds).length := (pickD_length ik jk ds hlen hm).symm
  have h' : STree.prefixL (pickD ik jk ds) (pickD ik ik rc) = true := by
    rw [pickD_self ik rc hlr hni]; exact h
  have := prefixL_reindex ik (pickD ik jk ds) ik rc h' hpl (fun _ hk => hk) hlr jk hm'
  rwa [pickD_inv hks hni hnj hlen] at this

theorem prefixL_unalign {i j : NInfo} {ds rc : List STree} (hd : j.kind.isDict = i.kind.isDict)
    (hks : i.kind.isDict = true → keySetEq i.keys j.keys = true)
    (hil : i.kind.isDict = true → i.keys.length = rc.length) (hin : i.kind.isDict = true → i.keys.Nodup)
    (hjl : j.kind.isDict = true → j.keys.length = ds.length) (hjn : j.kind.isDict = true → j.keys.Nodup)
    (h : STree.prefixL (alignC i j ds) rc = true) : STree.prefixL ds (alignC j i rc) = true := by
  by_cases hid : i.kind.isDict = true
  · have hjd := hd.trans hid
    rw [alignC_dict _ hid] at h
    rw [alignC_dict _ hjd]
    exact prefixL_unpick (hks hid) (hin hid) (hjn hjd) (hjl hjd) (hil hid) h
  · have hid' : i.kind.isDict = false := by simpa using hid
    rw [alignC_seq _ hid'] at h
    rwa [alignC_seq _ (hd.trans hid')]

mutual
/-- the registrations occurring in a shape -/
def STree.regs : STree → List Reg
  | .leaf => []
  | .node i cs => i.custom.toList ++ STree.regsL cs
def STree.regsL : List STree → List Reg
  | [] => []
  | c :: cs => c.regs ++ STree.regsL cs
end

theorem STree.mem_regsL {r : Reg} : ∀ {cs : List STree}, r ∈ STree.regsL cs ↔ ∃ c ∈ cs, r ∈ c.regs
  | [] => by simp [STree.regsL]
  | c :: cs => by simp [STree.regsL, STree.mem_regsL (cs := cs)]

/-- one registration record per class among the custom nodes of the two shapes (as when both treespecs
were made in one registry state and one namespace) -/
def RegsAgree (ra rb : List Reg) : Prop :=
  ∀ r ∈ ra, ∀ r' ∈ rb, r.cls = r'.cls → r.clsKind = r'.clsKind → r = r'

theorem RegsAgree.mono {ra rb ra' rb' : List Reg} (h : RegsAgree ra rb) (h1 : ∀ r ∈ ra', r ∈ ra)
    (h2 : ∀ r ∈ rb', r ∈ rb) : RegsAgree ra' rb' :=
  fun r hr r' hr' => h r (h1 r hr) r' (h2 r' hr')

theorem STree.regsL_subset {xs ys : List STree} (h : xs ⊆ ys) : ∀ r ∈ STree.regsL xs, r ∈ STree.regsL ys := by
  intro r hr
  obtain ⟨c, hc, hrc⟩ := STree.mem_regsL.mp hr
  exact STree.mem_regsL.mpr ⟨c, h hc, hrc⟩

theorem RegsAgree.node {i j : NInfo} {cs ds : List STree} (h : RegsAgree (STree.node i cs).regs (STree.node j ds).regs) :
    (∀ r r', i.custom = some r → j.custom = some r' → r.cls = r'.cls → r.clsKind = r'.clsKind → r = r') ∧
      RegsAgree (STree.regsL cs) (STree.regsL ds) :=
  ⟨fun r r' h1 h2 => h r (by simp [STree.regs, h1]) r' (by simp [STree.regs, h2]),
    h.mono (fun r hr => by simp [STree.regs, hr]) (fun r hr => by simp [STree.regs, hr])⟩

mutual
/-- The second operand is a prefix of the merged shape.  Asks for one registration record per class among the two
shapes (`RegsAgree`): `lub` compares the classes of custom nodes, `prefixB` their registration records. -/
theorem STree.lub_extends_right : ∀ a : STree, a.wf = true → a.fitsT = true → ∀ b : STree, b.wf = true →
    b.fitsT = true → RegsAgree a.regs b.regs → ∀ c : STree, a.lub b = some c → b.prefixB c = true
  | .leaf, _, _, b, hb, _, _, c, h => by
      simp only [STree.lub, Option.some.injEq] at h
      subst h
      exact STree.prefixB_refl _ hb
  | .node _ _, _, _, .leaf, _, _, _, _, _ => rfl
  | .node i cs, ha, hfa, .node j ds, hb, hfb, hreg, c, h => by
      obtain ⟨-, li, ni, wa⟩ := STree.wf_nodeK ha
      obtain ⟨-, lj, nj, wb⟩ := STree.wf_nodeK hb
      simp only [STree.fitsT, Bool.and_eq_true] at hfa hfb
      obtain ⟨hC, hlen, rc, hl, hrl, rfl⟩ := STree.lub_node_some ha hb h
      obtain ⟨hregN, hregL⟩ := hreg.node
      have hd := NInfo.lubC_isDict hC
      have hsub := alignC_subset i j ds
      have li' : i.kind.isDict = true → i.keys.length = rc.length := fun h => (li h).trans hrl.symm
      rw [STree.prefixB_nf j i ds rc lj li', NInfo.preC_symm ni (NInfo.preC_of_lubC hfa.1 hfb.1 hregN hC), ← hlen, hrl]
      simp only [beq_self_eq_true, Bool.true_and]
      exact prefixL_unalign hd (NInfo.lubC_keys hC) li' ni lj nj
        (STree.lubL_extends_right cs wa hfa.2 _ (STree.wfL_subset hsub wb) (STree.fitsL_subset hsub hfb.2)
          (hregL.mono (fun _ h => h) (STree.regsL_subset hsub)) rc hl)
theorem STree.lubL_extends_right : ∀ cs : List STree, STree.wfL cs = true → STree.fitsL cs = true →
    ∀ ds : List STree, STree.wfL ds = true → STree.fitsL ds = true →
    RegsAgree (STree.regsL cs) (STree.regsL ds) → ∀ rc : List STree, STree.lubL cs ds = some rc →
    STree.prefixL ds rc = true
  | [], _, _, ds, _, _, _, rc, h => by
      cases ds with
      | cons _ _ => cases h
      | nil => cases h; rfl
  | c :: cs, hw, hf, ds, hwd, hfd, hreg, rc, h => by
      cases ds with
      | nil => cases h
      | cons d ds =>
        rw [STree.wfL_cons] at hw hwd
        rw [STree.fitsL_cons] at hf hfd
        obtain ⟨x, xs, h1, h2, rfl⟩ := STree.lubL_cons_some h
        have r1 : RegsAgree c.regs d.regs :=
          hreg.mono (fun r hr => List.mem_append_left _ hr) (fun r hr => List.mem_append_left _ hr)
        have r2 : RegsAgree (STree.regsL cs) (STree.regsL ds) :=
          hreg.mono (fun r hr => List.mem_append_right _ hr) (fun r hr => List.mem_append_right _ hr)
        rw [STree.prefixL, STree.lub_extends_right c hw.1 hf.1 d hwd.1 hfd.1 r1 x h1,
          STree.lubL_extends_right cs hw.2 hf.2 ds hwd.2 hfd.2 r2 xs h2]
        rfl
end

mutual
/-- Every common suffix of the operands is a suffix of the merged shape, and the merged shape exists whenever a
common suffix exists. -/
theorem STree.lub_least : ∀ a : STree, a.wf = true → a.fitsT = true → ∀ b : STree, b.wf = true →
    b.fitsT = true → ∀ d : STree, d.wf = true → a.prefixB d = true → b.prefixB d = true →
    ∃ c, a.lub b = some c ∧ c.prefixB d = true
  | .leaf, _, _, b, _, _, _, _, _, h2 => ⟨b, rfl, h2⟩
  | .node i cs, _, _, .leaf, _, _, _, _, h1, _ => ⟨.node i cs, rfl, h1⟩
  | .node _ _, _, _, .node _ _, _, _, .leaf, _, h1, _ => nomatch h1
  | .node i cs, ha, hfa, .node j ds, hb, hfb, .node k es, hd, h1, h2 => by
      obtain ⟨-, li, -, wa⟩ := STree.wf_nodeK ha
      obtain ⟨-, lj, nj, wb⟩ := STree.wf_nodeK hb
      obtain ⟨-, lk, -, wd⟩ := STree.wf_nodeK hd
      simp only [STree.fitsT, Bool.and_eq_true] at hfa hfb
      obtain ⟨l1, p1, c1⟩ := STree.prefixB_node li lk h1
      obtain ⟨l2, p2, c2⟩ := STree.prefixB_node lj lk h2
      -- `i` and `j` are compatible through `k`; the second operand's children, re-paired to follow the
      -- first's, sit below the target's
      have pij := NInfo.preC_trans p1 (NInfo.preC_symm nj p2)
      obtain ⟨rc, hrc, hpr⟩ := STree.lubL_least cs wa hfa.2 _ (STree.wfL_subset (alignC_subset i j ds) wb)
        (STree.fitsL_subset (alignC_subset i j ds) hfb.2) _ (STree.wfL_subset (alignC_subset i k es) wd) c1
        (prefixL_alignC pij p2 lj lk c2)
      have hrl := (STree.lubL_length cs _ rc hrc).1
      refine ⟨.node i rc, ?_, ?_⟩
      · rw [STree.lub_nf i j cs ds ha hb, NInfo.lubC_of_preC hfa.1 pij, l1, l2, hrc]
        simp
      · rw [STree.prefixB_nf i k rc es (fun h => (li h).trans hrl.symm) lk, hrl, l1, p1, hpr]
        simp
theorem STree.lubL_least : ∀ cs : List STree, STree.wfL cs = true → STree.fitsL cs = true →
    ∀ ds : List STree, STree.wfL ds = true → STree.fitsL ds = true → ∀ es : List STree, STree.wfL es = true →
    STree.prefixL cs es = true → STree.prefixL ds es = true →
    ∃ rc, STree.lubL cs ds = some rc ∧ STree.prefixL rc es = true
  | [], _, _, ds, _, _, es, _, h1, h2 => by
      cases es with
      | cons _ _ => cases h1
      | nil =>
        cases ds with
        | cons _ _ => cases h2
        | nil => exact ⟨[], rfl, rfl⟩
  | c :: cs, hw, hf, ds, hwd, hfd, es, hwe, h1, h2 => by
      cases es with
      | nil => cases h1
      | cons e es =>
        cases ds with
        | nil => cases h2
        | cons d ds =>
          rw [STree.wfL_cons] at hw hwd hwe
          rw [STree.fitsL_cons] at hf hfd
          simp only [STree.prefixL, Bool.and_eq_true] at h1 h2
          obtain ⟨x, hx, hpx⟩ := STree.lub_least c hw.1 hf.1 d hwd.1 hfd.1 e hwe.1 h1.1 h2.1
          obtain ⟨xs, hxs, hpxs⟩ := STree.lubL_least cs hw.2 hf.2 ds hwd.2 hfd.2 es hwe.2 h1.2 h2.2
          exact ⟨x :: xs, by rw [STree.lubL_cons, hx, hxs]; rfl, by rw [STree.prefixL, hpx, hpxs]; rfl⟩
end

mutual
/-- The merged shape is again well-formed, payloads fitting kinds. -/
theorem STree.lub_wf : ∀ a : STree, a.wf = true → a.fitsT = true → ∀ b : STree, b.wf = true →
    b.fitsT = true → ∀ c : STree, a.lub b = some c → c.wf = true ∧ c.fitsT = true
  | .leaf, _, _, b, hb, hfb, c, h => by
      simp only [STree.lub, Option.some.injEq] at h
      subst h
      exact ⟨hb, hfb⟩
  | .node i cs, ha, hfa, .leaf, _, _, c, h => by
      simp only [STree.lub, Option.some.injEq] at h
      subst h
      exact ⟨ha, hfa⟩
  | .node i cs, ha, hfa, .node j ds, hb, hfb, c, h => by
      obtain ⟨hnl, hnone, hdi, wa⟩ := STree.wf_node ha
      have wb := (STree.wf_node hb).2.2.2
      simp only [STree.fitsT, Bool.and_eq_true] at hfa hfb
      obtain ⟨-, -, rc, hl, hrl, rfl⟩ := STree.lub_node_some ha hb h
      obtain ⟨hwr, hfr⟩ := STree.lubL_wf cs wa hfa.2 _ (STree.wfL_subset (alignC_subset i j ds) wb)
        (STree.fitsL_subset (alignC_subset i j ds) hfb.2) rc hl
      refine ⟨(STree.wf_node_iff _ _).mpr
        ⟨hnl, fun hk => ?_, fun hd => ⟨(hdi hd).1.trans hrl.symm, (hdi hd).2⟩, hwr⟩, ?_⟩
      · obtain rfl := hnone hk
        exact List.eq_nil_of_length_eq_zero hrl
      · simp only [STree.fitsT, hfa.1, hfr, Bool.and_self]
theorem STree.lubL_wf : ∀ cs : List STree, STree.wfL cs = true → STree.fitsL cs = true →
    ∀ ds : List STree, STree.wfL ds = true → STree.fitsL ds = true → ∀ rc : List STree,
    STree.lubL cs ds = some rc → STree.wfL rc = true ∧ STree.fitsL rc = true
  | [], _, _, ds, _, _, rc, h => by
      cases ds with
      | cons _ _ => cases h
      | nil => cases h; exact ⟨rfl, rfl⟩
  | c :: cs, hw, hf, ds, hwd, hfd, rc, h => by
      cases ds with
      | nil => cases h
      | cons d ds =>
        rw [STree.wfL_cons] at hw hwd
        rw [STree.fitsL_cons] at hf hfd
        obtain ⟨x, xs, h1, h2, rfl⟩ := STree.lubL_cons_some h
        have r1 := STree.lub_wf c hw.1 hf.1 d hwd.1 hfd.1 x h1
        have r2 := STree.lubL_wf cs hw.2 hf.2 ds hwd.2 hfd.2 xs h2
        rw [STree.wfL, STree.fitsL, r1.1, r1.2, r2.1, r2.2]
        exact ⟨rfl, rfl⟩
end

end Optree
