/-
  `flatten` produces encodings of well-formed shapes only (L1 → L0): for a well-formed tree (`PyObj.wf`),
  whatever the configuration, the predicate and the registry, the node array of a successful flatten is
  `STree.enc s` for a well-formed `s` with as many leaves as were returned.  Every refinement
  theorem about `enc s` therefore applies to every treespec made by flattening a well-formed tree.
-/
import OptreeModel.Lemmas.Enc
import OptreeModel.Lemmas.FlattenView

namespace Optree

def IsEnc (out : FlatOut) : Prop :=
  ∃ st : STree, st.wf = true ∧ out.nodes = st.enc ∧ out.leaves.length = st.leaves

def IsEncL (out : FlatOut) (n : Nat) : Prop :=
  ∃ cs : List STree, STree.wfL cs = true ∧ out.nodes = STree.encL cs ∧
    out.leaves.length = STree.leavesL cs ∧ cs.length = n

theorem leafOut_isEnc (x : PyObj) : IsEnc (leafOut x) :=
  ⟨.leaf, rfl, rfl, rfl⟩

theorem seqOuts_isEncL {f : PyObj → Except Err FlatOut} {cs : List PyObj} {b : FlatOut}
    (ih : ∀ c ∈ cs, ∀ o, f c = .ok o → IsEnc o) (hb : seqOuts (cs.map f) = .ok b) :
    IsEncL b cs.length := by
  refine seqOuts_induct (Q := fun (cs : List PyObj) b => IsEncL b cs.length) ⟨[], rfl, rfl, rfl, rfl⟩ ?_ ih hb
  rintro _ _ _ _ ⟨st, hw, hn, hl⟩ ⟨sts, hws, hns, hls, hlen⟩
  exact ⟨st :: sts, by simp [STree.wfL, hw, hws], by simp [FlatOut.append, STree.encL, hn, hns],
    by simp [FlatOut.append, STree.leavesL, hl, hls], by simp [hlen]⟩

theorem close_enc {body : FlatOut} {sts : List STree} {n : Nat} (hn : body.nodes = STree.encL sts)
    (hl : body.leaves.length = STree.leavesL sts) (hlen : sts.length = n) (i : NInfo) (fc : Bool) :
    (body.close i.kind n i.data i.entries i.custom i.originalKeys fc).nodes = (STree.node i sts).enc ∧
      (body.close i.kind n i.data i.entries i.custom i.originalKeys fc).leaves.length =
        (STree.node i sts).leaves := by
  simp [FlatOut.close, STree.enc, STree.leaves, NInfo.toNode, hn, hl, hlen, STree.encL_length]

theorem close_isEnc {body : FlatOut} {n : Nat} (hb : IsEncL body n) (i : NInfo) (fc : Bool)
    (hk : i.kind ≠ .leaf) (hnone : i.kind = .none → n = 0)
    (hdict : i.kind.isDict = true → i.keys.length = n ∧ i.keys.Nodup) :
    IsEnc (body.close i.kind n i.data i.entries i.custom i.originalKeys fc) := by
  obtain ⟨sts, hw, hn, hl, rfl⟩ := hb
  exact ⟨.node i sts, (STree.wf_node_iff _ _).mpr ⟨hk, fun h => List.length_eq_zero_iff.mp (hnone h), hdict, hw⟩,
    close_enc hn hl rfl i fc⟩

/-- the side conditions of `STree.wf` at a node (`STree.wf_node_iff`), here for a built-in one: its kind and data
give all but the distinct keys (`hd`) -/
theorem PlainNode.wf_node {k : Kind} {data : NodeData} {n : Nat} (h : PlainNode k data n) (hd : data.wfFor n)
    (ok : Option (List Key)) :
    k ≠ .leaf ∧ (k = .none → n = 0) ∧
      (k.isDict = true → (NInfo.mk k data Option.none Option.none ok).keys.length = n ∧
        (NInfo.mk k data Option.none Option.none ok).keys.Nodup) := by
  cases h
  case dict ks | odict ks | ddict f ks => exact ⟨nofun, nofun, fun _ => ⟨rfl, hd⟩⟩
  case none => exact ⟨nofun, fun _ => rfl, nofun⟩
  all_goals exact ⟨nofun, nofun, nofun⟩

/-- the same at a node of a well-formed object; `q = .ok`: the flatten function of a registered class is
well-behaved -/
theorem PyObj.wf_view_node (cfg : Cfg) (s : Bool) (x : PyObj) (hwf : x.wf = true) :
    match x.view cfg s with
    | .leaf => True
    | .node k data ok cs => k ≠ .leaf ∧ (k = .none → cs.length = 0) ∧
        (k.isDict = true → (NInfo.mk k data Option.none Option.none ok).keys.length = cs.length ∧
          (NInfo.mk k data Option.none Option.none ok).keys.Nodup)
    | .custom _ _ q _ => q = .ok := by
  have hn := PyObj.view_plain cfg s x
  have hw := PyObj.wf_iff_view cfg s x
  cases hv : x.view cfg s <;> simp only [hv] at hn hw ⊢
  · exact hn.wf_node (hw.mp hwf).1 _
  · exact (hw.mp hwf).1

/-- What `flatten` writes is the encoding of a well-formed shape: for a well-formed `t`, at any depth and under any
predicate, the records a successful `flattenGo` returns are `STree.enc st` for some `st` with `st.wf`, and the leaves
returned are as many as `st` has (`IsEnc`). -/
theorem eobj (cfg : Cfg) (s : Bool) (t : PyObj) :
    t.wf = true → ∀ d out, flattenGo cfg s d t = .ok out → IsEnc out := by
  induction t using PyObj.view_induct cfg s with | _ t ih
  intro hwf d out h
  obtain ⟨-, ⟨-, rfl⟩ | ⟨-, h⟩⟩ := flattenGo_ok h
  · exact leafOut_isEnc t
  have ih := fun c hc => ih c hc (PyObj.wf_kids cfg s hwf c hc)
  have hw := PyObj.wf_view_node cfg s t hwf
  cases hv : t.view cfg s <;> simp only [hv, View.kids] at h ih hw
  case leaf => cases h; exact leafOut_isEnc t
  case node k data ok cs =>
    obtain ⟨b, hb, rfl⟩ := closeSeq_ok h
    exact close_isEnc (seqOuts_isEncL (fun c hc => ih c hc (d + 1)) hb) ⟨k, data, Option.none, Option.none, ok⟩
      false hw.1 hw.2.1 hw.2.2
  case custom reg md q cs =>
    obtain ⟨b, entries, hb, rfl⟩ := customFlatten_ok h
    rw [List.length_map]
    exact close_isEnc (seqOuts_isEncL (fun c hc => ih c hc (d + 1)) hb)
      ⟨.custom, .md _, entries, some reg, Option.none⟩ true (by simp) (by simp) (by simp [Kind.isDict])

def Eobj (cfg : Cfg) (s : Bool) (t : PyObj) : Prop :=
  ∀ d out, flattenGo cfg s d t = .ok out → IsEnc out

theorem ekvs (cfg : Cfg) (s : Bool) : ∀ kvs : List (Key × PyObj), PyObj.wfKVs kvs = true →
    ∀ p ∈ kvs, Eobj cfg s p.2 :=
  fun _ h p hp => eobj cfg s p.2 (PyObj.wfKVs_mem h p hp)

/-- **every treespec made by flattening is the encoding of a well-formed shape** with as many leaves
as `flatten` returned -/
theorem flatten_isEnc (cfg : Cfg) (t : PyObj) (hwf : t.wf = true) (ls : List PyObj) (sp : Spec)
    (h : flatten cfg t = .ok (ls, sp)) :
    ∃ st : STree, st.wf = true ∧ sp = st.spec cfg.noneIsLeaf sp.ns ∧ ls.length = st.leaves := by
  obtain ⟨out, ho, rfl, rfl⟩ := flatten_ok h
  obtain ⟨st, hw, hn, hl⟩ := eobj cfg _ t hwf 0 out ho
  exact ⟨st, hw, by simp [STree.spec, hn], hl⟩

end Optree
