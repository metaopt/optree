/-
  Refinement for the treespec inspection API (C08).  On encodings the index walkers `Children`, `Child` and
  `Compose` are the obvious tree operations: the child list, the `i`-th child, substitution at the leaves.
  `MakeFromCollection` (`verifyChildren`, `assemble`) over child treespecs puts together the node whose children
  are the child shapes, so rebuilding the root of a treespec from `children()` gives the treespec back.
-/
import OptreeModel.Lemmas.Enc

namespace Optree

theorem splitChildren_encL (rs : List STree) :
    splitChildren rs.length (STree.encL rs.reverse) = .ok (rs.reverse.map STree.enc) := by
  induction rs with
  | nil => simp [splitChildren, STree.encL]
  | cons c rs ih =>
    simp only [List.length_cons, List.reverse_cons, List.map_append, List.map_cons, List.map_nil,
      STree.encL_snoc, splitChildren, STree.append_enc_getLast?, STree.root_numNodes, STree.append_enc_guard,
      if_false, STree.append_enc_cut, List.take_left, List.drop_left, ih]

/-- `children()` of an encoded shape are the encoded child shapes, in order -/
theorem children_enc (s : STree) (nil : Bool) (ns : String) :
    children (s.spec nil ns) = .ok (s.children.map fun c => c.spec nil ns) := by
  have h := splitChildren_encL s.children.reverse
  rw [List.length_reverse, List.reverse_reverse] at h
  have hall : (s.children.map fun c => c.spec nil ns).all Spec.sane = true := by
    simp only [List.all_map, List.all_eq_true]
    exact fun c _ => STree.spec_sane c nil ns
  simp only [children, STree.spec_sane, STree.spec_nodes, STree.spec_noneIsLeaf, STree.spec_ns, Bool.not_true,
    Bool.false_eq_true, if_false, STree.enc_getLast?, STree.enc_dropLast, STree.root_arity, h, List.map_map]
  exact if_pos hall

theorem skipRight_encL (cs rs : List STree) :
    skipRight rs.length (STree.encL (cs ++ rs.reverse)) = .ok (STree.encL cs) := by
  induction rs with
  | nil => simp [skipRight]
  | cons c rs ih =>
    simp only [List.length_cons, List.reverse_cons, ← List.append_assoc, STree.encL_snoc, skipRight,
      STree.append_enc_getLast?, STree.root_numNodes, STree.append_enc_guard, if_false, STree.append_enc_cut,
      List.take_left, ih]

theorem normIndex_some {index : Int} {arity j : Nat} (h : normIndex index arity = some j) :
    j < arity ∧ ((0 ≤ index ∧ (j : Int) = index) ∨ (index < 0 ∧ (j : Int) = index + arity)) := by
  unfold normIndex at h
  split at h
  · cases h
  rename_i hr
  simp only [Bool.or_eq_true, decide_eq_true_eq, not_or, Int.not_lt, ge_iff_le, Int.not_le] at hr
  by_cases h0 : index < 0
  · rw [if_pos h0] at h
    cases h
    have hn : 0 ≤ index + arity := by omega
    exact ⟨(Int.toNat_lt hn).mpr (by omega), .inr ⟨h0, Int.toNat_of_nonneg hn⟩⟩
  · rw [if_neg h0] at h
    cases h
    have hn := Int.not_lt.mp h0
    exact ⟨(Int.toNat_lt hn).mpr hr.2, .inl ⟨hn, Int.toNat_of_nonneg hn⟩⟩

theorem normIndex_lt {index : Int} {arity j : Nat} (h : normIndex index arity = some j) : j < arity :=
  (normIndex_some h).1

/-- `child(i)` with Python index semantics is the encoded `i`-th child shape -/
theorem child_enc (s : STree) (nil : Bool) (ns : String) (index : Int) :
    child (s.spec nil ns) index =
      match normIndex index s.children.length with
      | Option.none => .error .index
      | some j =>
          match s.children[j]? with
          | some c => .ok (c.spec nil ns)
          | Option.none => .error .index := by
  simp only [child, STree.spec_sane, STree.spec_nodes, STree.spec_noneIsLeaf, STree.spec_ns, Bool.not_true,
    Bool.false_eq_true, if_false, STree.enc_getLast?, STree.enc_dropLast, STree.root_arity]
  cases hni : normIndex index s.children.length with
  -- the `match` of the statement and the one inside `child` are different auxiliary matchers on the same cases:
  -- the two sides print alike and `rfl` closes the goal
  | none => rfl
  | some j =>
    have hj := normIndex_lt hni
    -- skipping the children after the `j`-th leaves the arrays of the first `j + 1`
    have hsk := skipRight_encL (s.children.take (j + 1)) (s.children.drop (j + 1)).reverse
    rw [List.reverse_reverse, List.take_append_drop, List.length_reverse, List.length_drop] at hsk
    simp only [Nat.sub_sub, Nat.add_comm 1 j, hsk, List.take_succ_eq_append_getElem hj, STree.encL_snoc,
      STree.append_enc_getLast?, STree.root_numNodes, STree.append_enc_guard, if_false,
      STree.append_enc_cut, List.drop_left, List.getElem?_eq_getElem hj]
    exact if_pos (STree.spec_sane ..)

mutual
theorem STree.leaves_le_size : ∀ s : STree, s.leaves ≤ s.size
  | .leaf => Nat.le_refl _
  | .node _ cs => Nat.le_succ_of_le (STree.leavesL_le_sizeL cs)
theorem STree.leavesL_le_sizeL : ∀ cs : List STree, STree.leavesL cs ≤ STree.sizeL cs
  | [] => Nat.le_refl _
  | c :: cs => Nat.add_le_add (STree.leaves_le_size c) (STree.leavesL_le_sizeL cs)
end

mutual
theorem STree.subst_leaves (b : STree) : ∀ a : STree, (a.subst b).leaves = a.leaves * b.leaves
  | .leaf => by simp [STree.subst, STree.leaves]
  | .node _ cs => by simp [STree.subst, STree.leaves, STree.substL_leaves b cs]
theorem STree.substL_leaves (b : STree) : ∀ cs : List STree,
    STree.leavesL (STree.substL cs b) = STree.leavesL cs * b.leaves
  | [] => by simp [STree.substL, STree.leavesL]
  | c :: cs => by
      simp [STree.substL, STree.leavesL, STree.subst_leaves b c, STree.substL_leaves b cs, Nat.add_mul]
end

mutual
theorem STree.subst_size (b : STree) : ∀ a : STree,
    (a.subst b).size + a.leaves = a.size + a.leaves * b.size
  | .leaf => by rw [STree.subst, STree.leaves, STree.size, Nat.one_mul, Nat.add_comm]
  | .node _ cs => by
      rw [STree.subst, STree.leaves, STree.size, STree.size, Nat.add_right_comm, STree.substL_size b cs,
        Nat.add_right_comm]
theorem STree.substL_size (b : STree) : ∀ cs : List STree,
    STree.sizeL (STree.substL cs b) + STree.leavesL cs = STree.sizeL cs + STree.leavesL cs * b.size
  | [] => by rw [STree.substL, STree.leavesL, STree.sizeL, Nat.zero_mul]
  | c :: cs => by
      rw [STree.substL, STree.leavesL, STree.sizeL, STree.sizeL, Nat.add_mul, Nat.add_add_add_comm,
        STree.subst_size b c, STree.substL_size b cs, Nat.add_add_add_comm]
end

theorem STree.substL_length (b : STree) (cs : List STree) : (STree.substL cs b).length = cs.length := by
  induction cs with
  | nil => rfl
  | cons c cs ih => simp [STree.substL, ih]

/-- the per-node rewriting of `Compose` -/
def composeNode (inner : List Node) (nil nin : Nat) (n : Node) : List Node :=
  if n.kind == .leaf then inner
  else [{ n with numLeaves := n.numLeaves * nil,
                 numNodes := (n.numNodes - n.numLeaves) + n.numLeaves * nin }]

theorem composeNode_toNode (inner : List Node) (nil nin : Nat) (i : NInfo) (a l n : Nat) (hk : i.kind ≠ .leaf) :
    composeNode inner nil nin (i.toNode a l n) = [i.toNode a (l * nil) (n - l + l * nin)] := by
  simp [composeNode, hk]; rfl

/-- the node count `Compose` writes, read off the count equation of `subst` -/
theorem sub_add_of_add_eq {S S' l m : Nat} (hle : l ≤ S) (hs : S' + l = S + m) : S - l + m = S' :=
  Nat.add_right_cancel (m := l) (by rw [hs, Nat.add_right_comm, Nat.sub_add_cancel hle])

mutual
theorem compose_flatMap (b : STree) : ∀ a : STree, a.wf = true →
    a.enc.flatMap (composeNode b.enc b.leaves b.size) = (a.subst b).enc
  | .leaf, _ => by simp [STree.enc, STree.subst, composeNode, Node.leaf]
  | .node i cs, h => by
      obtain ⟨hk, -, -, hw⟩ := STree.wf_node h
      rw [STree.enc, List.flatMap_append, compose_flatMapL b cs hw, List.flatMap_singleton,
        composeNode_toNode _ _ _ _ _ _ _ hk, STree.subst, STree.enc, STree.substL_length, STree.substL_leaves,
        show STree.sizeL cs + 1 - STree.leavesL cs + STree.leavesL cs * b.size = STree.sizeL (STree.substL cs b) + 1
          from sub_add_of_add_eq (STree.leaves_le_size (.node i cs)) (STree.subst_size b (.node i cs))]
theorem compose_flatMapL (b : STree) : ∀ cs : List STree, STree.wfL cs = true →
    (STree.encL cs).flatMap (composeNode b.enc b.leaves b.size) = STree.encL (STree.substL cs b)
  | [], _ => by simp [STree.encL, STree.substL]
  | c :: cs, h => by
      rw [STree.wfL_cons] at h
      simp only [STree.encL, STree.substL, List.flatMap_append, compose_flatMap b c h.1,
        compose_flatMapL b cs h.2]
end


/-- `compose` of encoded shapes is the encoding of the substituted shape -/
theorem compose_enc (a b : STree) (ha : a.wf = true) (nil : Bool) (ns ns' : String)
    (hc : nsCompatible ns ns' = true) :
    compose (a.spec nil ns) (b.spec nil ns') = .ok ((a.subst b).spec nil (mergeNs ns ns')) := by
  have hnodes := compose_flatMap b a ha
  unfold composeNode at hnodes
  unfold compose
  simp only [STree.spec_sane, STree.spec_numLeaves, STree.spec_numNodes, STree.spec_nodes, STree.spec_noneIsLeaf,
    STree.spec_ns, Bool.not_true, Bool.or_self, Bool.false_eq_true, if_false, bne_self_eq_false, hc, hnodes,
    STree.enc_getLast?, STree.root_numLeaves, STree.root_numNodes, STree.subst_leaves,
    sub_add_of_add_eq (STree.leaves_le_size a) (STree.subst_size b a), STree.mk_enc]

mutual
theorem STree.subst_wf (b : STree) (hb : b.wf = true) : ∀ a : STree, a.wf = true → (a.subst b).wf = true
  | .leaf, _ => by simpa [STree.subst] using hb
  | .node i cs, h => by
      obtain ⟨h1, h2, h3, h4⟩ := STree.wf_node h
      rw [STree.subst, STree.wf_node_iff, STree.substL_length]
      exact ⟨h1, fun hk => by rw [h2 hk]; rfl, h3, STree.substL_wf b hb cs h4⟩
theorem STree.substL_wf (b : STree) (hb : b.wf = true) : ∀ cs : List STree, STree.wfL cs = true →
    STree.wfL (STree.substL cs b) = true
  | [], _ => by simp [STree.substL, STree.wfL]
  | c :: cs, h => by
      rw [STree.wfL_cons] at h
      simp [STree.substL, STree.wfL, STree.subst_wf b hb c h.1, STree.substL_wf b hb cs h.2]
end

theorem assemble_enc (nil : Bool) (ns : String) (cs : List STree) (nil' : Bool) (ns' : String) (kind : Kind)
    (data : NodeData) (entries : Option (List Key)) (custom : Option Reg) (okeys : Option (List Key))
    (hk : kind ≠ .leaf) :
    assemble nil ns (cs.map fun c => c.spec nil' ns') kind data entries custom okeys =
      (STree.node ⟨kind, data, entries, custom, okeys⟩ cs).spec nil ns := by
  have hbody : (cs.map fun c => c.spec nil' ns').flatMap (·.nodes) = STree.encL cs := by
    rw [STree.encL_eq_flatMap, List.flatMap_map]
    rfl
  have hleaves : ((cs.map fun c => c.spec nil' ns').map Spec.numLeaves).sum = STree.leavesL cs := by
    rw [STree.leavesL_eq_sum, List.map_map]
    congr 1
    apply List.map_congr_left
    intro c _
    exact STree.spec_numLeaves c nil' ns'
  have hkf : (kind == Kind.leaf) = false := by simp [hk]
  unfold assemble
  simp only [hbody, hleaves, hkf, Bool.false_eq_true, if_false, Nat.add_zero, List.length_map,
    STree.encL_length]
  simp only [STree.spec, STree.enc, NInfo.toNode]

theorem common_same (acc : String) : ∀ cs : List Spec, (∀ c ∈ cs, c.ns = "" ∨ c.ns = acc) →
    verifyChildren.common cs acc = .ok acc
  | [], _ => rfl
  | c :: cs, h => by
      have ih := common_same acc cs fun c' hc' => h c' (List.mem_cons_of_mem _ hc')
      rcases h c (List.mem_cons_self ..) with hc | hc <;> simp [verifyChildren.common, hc, ih]

theorem verifyChildren_uniform (nil : Bool) (ns : String) (cs : List STree) :
    verifyChildren nil ns false (cs.map fun c => c.spec nil ns) =
      .ok (if cs.isEmpty then "" else ns) := by
  have hsane : (cs.map fun c => c.spec nil ns).all Spec.sane = true := by
    simp only [List.all_map, List.all_eq_true]; intro c _; exact STree.spec_sane c nil ns
  have hnil : (cs.map fun c => c.spec nil ns).any (fun c => c.noneIsLeaf != nil) = false := by
    simp [List.any_map, STree.spec]
  have hc : verifyChildren.common (cs.map fun c => c.spec nil ns) "" = .ok (if cs.isEmpty then "" else ns) := by
    cases cs with
    | nil => rfl
    | cons c cs =>
      have hr := common_same ns (cs.map fun c => c.spec nil ns) fun c hc => by
        obtain ⟨x, _, rfl⟩ := List.mem_map.mp hc; exact .inr rfl
      by_cases hn : ns = ""
      · subst hn; simpa [verifyChildren.common, STree.spec] using hr
      · simpa [verifyChildren.common, STree.spec, hn] using hr
  unfold verifyChildren
  simp only [hsane, Bool.not_true, Bool.false_eq_true, if_false, hnil, hc]
  cases cs with
  | nil => simp
  | cons c cs => by_cases hn : ns = "" <;> simp [hn]

end Optree
