/-
  Basic facts about the post-order encoding `STree.enc` (L0 ↔ L1 bridge): sizes, the root record, and the
  slicing lemmas.  Every index walker peels one sub-tree off an array by the node count its root record
  carries: off the front of a reversed array (`cutSegments`, `isPrefixGo`), off the back of a forward one
  (`splitChildren`, `skipRight`, `child`), or at a cursor (`nodeAt`).  The slicing lemmas are stated with an
  arbitrary rest `X`, so that such a step is one rewrite.
-/
import OptreeModel.Model.STree
import OptreeModel.Lemmas.Control

namespace Optree

theorem Node.info_kind (n : Node) : n.info.kind = n.kind := rfl
theorem Node.info_data (n : Node) : n.info.data = n.data := rfl
theorem Node.info_custom (n : Node) : n.info.custom = n.custom := rfl
theorem Node.info_keys (n : Node) : n.info.keys = n.keys := rfl

@[simp] theorem NInfo.toNode_kind (i : NInfo) (a l n : Nat) : (i.toNode a l n).kind = i.kind := rfl
@[simp] theorem NInfo.toNode_arity (i : NInfo) (a l n : Nat) : (i.toNode a l n).arity = a := rfl
@[simp] theorem NInfo.toNode_data (i : NInfo) (a l n : Nat) : (i.toNode a l n).data = i.data := rfl
@[simp] theorem NInfo.toNode_entries (i : NInfo) (a l n : Nat) : (i.toNode a l n).entries = i.entries := rfl
@[simp] theorem NInfo.toNode_custom (i : NInfo) (a l n : Nat) : (i.toNode a l n).custom = i.custom := rfl
@[simp] theorem NInfo.toNode_numLeaves (i : NInfo) (a l n : Nat) : (i.toNode a l n).numLeaves = l := rfl
@[simp] theorem NInfo.toNode_numNodes (i : NInfo) (a l n : Nat) : (i.toNode a l n).numNodes = n := rfl
@[simp] theorem NInfo.toNode_info (i : NInfo) (a l n : Nat) : (i.toNode a l n).info = i := rfl
@[simp] theorem NInfo.toNode_keys (i : NInfo) (a l n : Nat) : (i.toNode a l n).keys = i.keys := rfl

theorem NInfo.childEntries_toNode (i : NInfo) (n nl nn : Nat) :
    (i.toNode n nl nn).childEntries = i.childEntries n := by
  simp only [NInfo.childEntries, Node.childEntries, NInfo.toNode, Node.defaultEntries, Node.keys]

mutual
theorem STree.enc_length : ∀ s : STree, s.enc.length = s.size
  | .leaf => by simp [STree.enc, STree.size]
  | .node i cs => by simp [STree.enc, STree.size, STree.encL_length cs]
theorem STree.encL_length : ∀ cs : List STree, (STree.encL cs).length = STree.sizeL cs
  | [] => by simp [STree.encL, STree.sizeL]
  | c :: cs => by simp [STree.encL, STree.sizeL, STree.enc_length c, STree.encL_length cs]
end

theorem STree.size_pos (s : STree) : 0 < s.size := by
  cases s <;> simp [STree.size]

theorem STree.root_numNodes (s : STree) : s.root.numNodes = s.size := by
  cases s <;> simp [STree.root, STree.size, Node.leaf, NInfo.toNode]

theorem STree.root_numLeaves (s : STree) : s.root.numLeaves = s.leaves := by
  cases s <;> simp [STree.root, STree.leaves, Node.leaf, NInfo.toNode]

theorem STree.root_arity_leaf : STree.leaf.root.arity = 0 := rfl

def STree.children : STree → List STree
  | .leaf => []
  | .node _ cs => cs

theorem STree.root_arity (s : STree) : s.root.arity = s.children.length := by
  cases s <;> rfl

theorem STree.enc_eq (s : STree) : s.enc = STree.encL s.children ++ [s.root] := by
  cases s <;> simp [STree.enc, STree.encL, STree.children, STree.root]

theorem STree.enc_ne_nil (s : STree) : s.enc ≠ [] := by
  rw [STree.enc_eq]; simp

theorem STree.enc_getLast? (s : STree) : s.enc.getLast? = some s.root := by
  rw [STree.enc_eq]; simp

theorem STree.enc_dropLast (s : STree) : s.enc.dropLast = STree.encL s.children := by
  rw [STree.enc_eq]; simp

theorem STree.encL_append (xs ys : List STree) :
    STree.encL (xs ++ ys) = STree.encL xs ++ STree.encL ys := by
  induction xs with
  | nil => simp [STree.encL]
  | cons x xs ih => simp [STree.encL, ih]

theorem STree.encL_eq_flatMap (cs : List STree) : STree.encL cs = cs.flatMap STree.enc := by
  induction cs with
  | nil => simp [STree.encL]
  | cons c cs ih => simp [STree.encL, ih]

theorem STree.sizeL_eq_sum (cs : List STree) : STree.sizeL cs = (cs.map STree.size).sum := by
  induction cs with
  | nil => simp [STree.sizeL]
  | cons c cs ih => simp [STree.sizeL, ih]

theorem STree.leavesL_eq_sum (cs : List STree) : STree.leavesL cs = (cs.map STree.leaves).sum := by
  induction cs with
  | nil => simp [STree.leavesL]
  | cons c cs ih => simp [STree.leavesL, ih]

theorem STree.substL_eq_map (b : STree) : ∀ cs : List STree, STree.substL cs b = cs.map (·.subst b)
  | [] => rfl
  | c :: cs => by simp [STree.substL, STree.substL_eq_map b cs]

theorem STree.sizeL_append (xs ys : List STree) :
    STree.sizeL (xs ++ ys) = STree.sizeL xs + STree.sizeL ys := by
  simp only [STree.sizeL_eq_sum, List.map_append, List.sum_append]

theorem STree.sizeL_snoc (cs : List STree) (c : STree) : STree.sizeL (cs ++ [c]) = STree.sizeL cs + c.size := by
  rw [STree.sizeL_append, STree.sizeL, STree.sizeL, Nat.add_zero]

theorem STree.leavesL_append (xs ys : List STree) :
    STree.leavesL (xs ++ ys) = STree.leavesL xs + STree.leavesL ys := by
  simp only [STree.leavesL_eq_sum, List.map_append, List.sum_append]

theorem STree.wf_node_iff (i : NInfo) (cs : List STree) : (STree.node i cs).wf = true ↔
    i.kind ≠ .leaf ∧ (i.kind = .none → cs = []) ∧
      (i.kind.isDict = true → i.keys.length = cs.length ∧ i.keys.Nodup) ∧ STree.wfL cs = true := by
  simp only [STree.wf, Bool.and_eq_true, bne_iff_ne, ne_eq, Bool.or_eq_true, Bool.not_eq_true',
    List.isEmpty_iff, beq_iff_eq, decide_eq_true_eq, and_assoc, Decidable.imp_iff_not_or, Bool.not_eq_true]

theorem STree.wf_node {i : NInfo} {cs : List STree} (h : (STree.node i cs).wf = true) :
    i.kind ≠ .leaf ∧ (i.kind = .none → cs = []) ∧
      (i.kind.isDict = true → i.keys.length = cs.length ∧ i.keys.Nodup) ∧ STree.wfL cs = true :=
  (STree.wf_node_iff i cs).mp h

/-- `wf_node` with the two facts about a dict-kind node apart, as the lemmas on `alignC` and the normal forms of
`prefixB` / `lub` take them -/
theorem STree.wf_nodeK {i : NInfo} {cs : List STree} (h : (STree.node i cs).wf = true) :
    i.kind ≠ .leaf ∧ (i.kind.isDict = true → i.keys.length = cs.length) ∧
      (i.kind.isDict = true → i.keys.Nodup) ∧ STree.wfL cs = true :=
  have ⟨a, _, c, d⟩ := (STree.wf_node_iff i cs).mp h
  ⟨a, fun h => (c h).1, fun h => (c h).2, d⟩

theorem STree.wfL_cons {c : STree} {cs : List STree} :
    STree.wfL (c :: cs) = true ↔ c.wf = true ∧ STree.wfL cs = true := by
  rw [STree.wfL, Bool.and_eq_true]

theorem STree.wfL_iff (cs : List STree) : STree.wfL cs = true ↔ ∀ c ∈ cs, c.wf = true :=
  all_rec_iff rfl (fun _ _ => rfl) cs

theorem STree.wfL_snoc (cs : List STree) (c : STree) :
    STree.wfL (cs ++ [c]) = true ↔ STree.wfL cs = true ∧ c.wf = true := by
  rw [STree.wfL_iff, List.forall_mem_append, ← STree.wfL_iff, List.forall_mem_singleton]

theorem STree.wfL_subset {xs ys : List STree} (h : xs ⊆ ys) (hw : STree.wfL ys = true) : STree.wfL xs = true :=
  (STree.wfL_iff xs).mpr fun c hc => (STree.wfL_iff ys).mp hw c (h hc)

def STree.spec (s : STree) (nil : Bool) (ns : String) : Spec :=
  { nodes := s.enc, noneIsLeaf := nil, ns := ns }

theorem STree.spec_nodes (s : STree) (nil : Bool) (ns : String) : (s.spec nil ns).nodes = s.enc := rfl
theorem STree.spec_noneIsLeaf (s : STree) (nil : Bool) (ns : String) : (s.spec nil ns).noneIsLeaf = nil := rfl
theorem STree.spec_ns (s : STree) (nil : Bool) (ns : String) : (s.spec nil ns).ns = ns := rfl

theorem STree.mk_enc (s : STree) (nil : Bool) (ns : String) : (⟨s.enc, nil, ns⟩ : Spec) = s.spec nil ns := rfl

theorem STree.spec_sane (s : STree) (nil : Bool) (ns : String) : (s.spec nil ns).sane = true := by
  simp [STree.spec, Spec.sane, STree.enc_getLast?, STree.root_numNodes, STree.enc_length]

theorem STree.spec_numNodes (s : STree) (nil : Bool) (ns : String) :
    (s.spec nil ns).numNodes = s.size := by
  simp [STree.spec, Spec.numNodes, STree.enc_length]

theorem STree.spec_numLeaves (s : STree) (nil : Bool) (ns : String) :
    (s.spec nil ns).numLeaves = s.leaves := by
  simp [STree.spec, Spec.numLeaves, STree.enc_getLast?, STree.root_numLeaves]

/-- the options check `compose` and `broadcast_to_common_suffix` start with, in front of any continuation `k` -/
theorem optionsGuard_rejects {α : Type} (a b : Spec) (k : Except Err α) (hs : a.sane = true ∧ b.sane = true)
    (h : a.noneIsLeaf ≠ b.noneIsLeaf ∨ nsCompatible a.ns b.ns = false) :
    (if (!a.sane || !b.sane) = true then .error .internal
      else if (a.noneIsLeaf != b.noneIsLeaf) = true then .error .value
      else if (!nsCompatible a.ns b.ns) = true then .error .value else k) = .error .value := by
  rw [if_neg (by simp [hs.1, hs.2])]
  by_cases hn : a.noneIsLeaf = b.noneIsLeaf
  · rw [if_neg (by simp [hn]), if_pos (by simpa [hn] using h)]
  · rw [if_pos (by simpa using hn)]

/-! ### the reversed array: root first, then the children last-to-first -/

def STree.renc (s : STree) : List Node := s.enc.reverse

def STree.rencL (cs : List STree) : List Node := (STree.encL cs).reverse

theorem STree.renc_eq (s : STree) : s.renc = s.root :: STree.rencL s.children := by
  simp [STree.renc, STree.rencL, STree.enc_eq s]

theorem STree.renc_leaf : STree.leaf.renc = [Node.leaf] := rfl

theorem STree.renc_node (i : NInfo) (cs : List STree) :
    (STree.node i cs).renc = i.toNode cs.length (STree.leavesL cs) (STree.sizeL cs + 1) :: STree.rencL cs :=
  STree.renc_eq _

theorem STree.rencL_nil : STree.rencL [] = [] := by simp [STree.rencL, STree.encL]

theorem STree.rencL_cons (c : STree) (cs : List STree) :
    STree.rencL (c :: cs) = STree.rencL cs ++ c.renc := by
  simp [STree.rencL, STree.renc, STree.encL]

theorem STree.rencL_append (xs ys : List STree) :
    STree.rencL (xs ++ ys) = STree.rencL ys ++ STree.rencL xs := by
  simp [STree.rencL, STree.encL_append]

theorem STree.rencL_snoc (cs : List STree) (c : STree) : STree.rencL (cs ++ [c]) = c.renc ++ STree.rencL cs := by
  rw [STree.rencL_append, STree.rencL_cons, STree.rencL_nil, List.nil_append]

theorem STree.renc_length (s : STree) : s.renc.length = s.size := by
  simp [STree.renc, STree.enc_length]

theorem STree.rencL_length (cs : List STree) : (STree.rencL cs).length = STree.sizeL cs := by
  simp [STree.rencL, STree.encL_length]

theorem STree.rencL_eq_flatten (cs : List STree) :
    STree.rencL cs = (cs.reverse.map STree.renc).flatten := by
  induction cs with
  | nil => simp [STree.rencL_nil]
  | cons c cs ih => simp [STree.rencL_cons, ih]

/-! ### slicing: the front of a reversed array -/

theorem STree.renc_cons (s : STree) (X : List Node) : s.renc ++ X = s.root :: (STree.rencL s.children ++ X) := by
  rw [STree.renc_eq]; rfl

theorem STree.renc_append_take (s : STree) (X : List Node) : (s.renc ++ X).take s.size = s.renc := by
  rw [← STree.renc_length s, List.take_left]

theorem STree.renc_append_drop (s : STree) (X : List Node) : (s.renc ++ X).drop s.size = X := by
  rw [← STree.renc_length s, List.drop_left]

/-- the guard a front-peeling walker evaluates at a root record -/
theorem STree.renc_guard (s : STree) (X : List Node) :
    (s.size == 0 || decide ((s.renc ++ X).length < s.size)) = false := by
  rw [List.length_append, STree.renc_length, Bool.or_eq_false_iff]
  exact ⟨beq_eq_false_iff_ne.mpr (Nat.pos_iff_ne_zero.mp s.size_pos), decide_eq_false (Nat.not_lt.mpr (Nat.le_add_right ..))⟩

/-! ### slicing: the back of a forward array -/

theorem STree.encL_snoc (cs : List STree) (c : STree) : STree.encL (cs ++ [c]) = STree.encL cs ++ c.enc := by
  rw [STree.encL_append]; simp [STree.encL]

theorem STree.append_enc_getLast? (X : List Node) (s : STree) : (X ++ s.enc).getLast? = some s.root := by
  simp [List.getLast?_append, STree.enc_getLast?]

theorem STree.append_enc_cut (X : List Node) (s : STree) : (X ++ s.enc).length - s.size = X.length := by
  simp [STree.enc_length]

theorem STree.append_enc_guard (X : List Node) (s : STree) : ¬ ((X ++ s.enc).length < s.size) := by
  simp [STree.enc_length]

/-! ### slicing: at a cursor -/

theorem STree.getElem?_root (pre post : List Node) (s : STree) :
    (pre ++ s.enc ++ post)[pre.length + s.size - 1]? = some s.root := by
  have hs : pre.length + s.size - 1 = (pre ++ STree.encL s.children).length := by
    rw [← STree.enc_length, STree.enc_eq, List.length_append, List.length_append]; rfl
  rw [hs, STree.enc_eq, ← List.append_assoc pre, List.append_assoc _ [s.root],
    List.getElem?_append_right (Nat.le_refl _), Nat.sub_self]
  rfl

end Optree
