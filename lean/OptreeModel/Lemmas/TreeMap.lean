/-
  The Python layer's `tree_map*` (Model/Ops.lean): `zip(*lists)` on lists of one length, the call loop `callAll`, and
  the one analysis of the control flow of `treeMapGen` — `treeMapArgs` is everything before the first call of `f`
  (`treeMapGen_eq`), `treeMapArgs_ok` the argument tuples when every rest is matched.
-/
import OptreeModel.Model.Ops
import OptreeModel.Lemmas.Control

namespace Optree

theorem foldl_min_const (a : Nat) : ∀ (l : List Nat), (∀ x ∈ l, x = a) → l.foldl min a = a
  | [], _ => rfl
  | x :: l, h => by
      have hx : x = a := h x (by simp)
      subst hx
      simp only [List.foldl_cons, Nat.min_self]
      exact foldl_min_const x l (fun y hy => h y (by simp [hy]))

theorem zipArgs_same_length (l0 : List PyObj) (ls : List (List PyObj)) (h : ∀ l ∈ ls, l.length = l0.length) :
    zipArgs (l0 :: ls) = (List.range l0.length).map fun i => (l0 :: ls).map fun l => l[i]! := by
  unfold zipArgs
  have : ((l0 :: ls).map List.length).foldl min ((l0 :: ls).head!.length) = l0.length := by
    have hh : (l0 :: ls).head! = l0 := rfl
    simp only [List.map_cons, List.foldl_cons, hh, Nat.min_self]
    exact foldl_min_const l0.length (ls.map List.length) (by
      intro x hx
      simp only [List.mem_map] at hx
      obtain ⟨l, hl, rfl⟩ := hx
      exact h l hl)
  simp only [this]

theorem zipArgs_pair (ls subs : List PyObj) (hl : subs.length = ls.length) :
    zipArgs [ls, subs] = (ls.zip subs).map fun p => [p.1, p.2] := by
  rw [zipArgs_same_length ls [subs] (by simpa using hl)]
  induction ls generalizing subs with
  | nil => rfl
  | cons x ls ih =>
    cases subs with
    | nil => cases hl
    | cons y subs =>
      rw [List.length_cons, List.range_succ_eq_map, List.map_cons, List.map_map]
      exact congrArg ([x, y] :: ·) (ih subs (Nat.succ.inj hl))

theorem callAll_log_ok (f : UserFn) (args : List (List Arg)) (i : Nat) (acc : List PyObj)
    (log : List (List Arg)) (rs : List PyObj) (h : (callAll f i args acc log).1 = .ok rs) :
    (callAll f i args acc log).2 = log.reverse ++ args ∧ rs.length = acc.length + args.length := by
  induction args generalizing i acc log with
  | nil =>
    simp only [callAll, Except.ok.injEq] at h
    subst h
    simp [callAll]
  | cons a as ih =>
    cases hr : f i a with
    | error e => simp [callAll, hr] at h
    | ok r =>
      simp only [callAll, hr] at h ⊢
      obtain ⟨h1, h2⟩ := ih (i + 1) (r :: acc) (a :: log) h
      exact ⟨by simp [h1], by simp [h2]; omega⟩

theorem callAll_map_ok {α : Type} (f : UserFn) (pack : α → List Arg) (g : α → Except Err PyObj)
    (hf : ∀ i a, f i (pack a) = g a) (l : List α) (rs : List PyObj) (h : l.mapM g = .ok rs) (i : Nat)
    (acc : List PyObj) (log : List (List Arg)) :
    (callAll f i (l.map pack) acc log).1 = .ok (acc.reverse ++ rs) := by
  induction l generalizing rs i acc log with
  | nil => cases h; simp [callAll]
  | cons a l ih =>
    rw [List.mapM_cons] at h
    obtain ⟨r, hr, h⟩ := Except.bind_eq_ok.mp h
    obtain ⟨rs', hrs, h⟩ := Except.bind_eq_ok.mp h
    cases h
    simp only [List.map_cons, callAll, hf, hr]
    rw [ih rs' hrs]
    simp

/-- The argument tuples of the calls of `f`, one per leaf, and the treespec. -/
def treeMapArgs (cfg : Cfg) (variant : MapVariant) (t : PyObj) (rests : List PyObj) :
    Except Err (List (List Arg) × Spec) := do
  let (extra, leaves, sp) ←
    match variant with
    | .withPath => (flattenWithPath cfg t).map fun (ps, ls, sp) => (ps.map fun p => [Arg.path p], ls, sp)
    | _ => (flatten cfg t).map fun (ls, sp) => (ls.map fun _ => ([] : List Arg), ls, sp)
  let restLeaves ← rests.mapM (flattenUpTo cfg.reg sp)
  let ex ← match variant with
    | .withAccessor => (accessors sp).map fun as => as.map fun a => [Arg.acc a]
    | _ => pure extra
  let cols := zipArgs (leaves :: restLeaves)
  pure ((List.range (min ex.length cols.length)).map fun i => ex[i]! ++ (cols[i]!).map Arg.obj, sp)

/-- a rest that `flatten_up_to` refuses makes the argument tuples fail with its error, whatever the variant -/
theorem treeMapArgs_rest_error (cfg : Cfg) (variant : MapVariant) (t : PyObj) (rests : List PyObj)
    (ls : List PyObj) (sp : Spec) (e : Err) (hflat : flatten cfg t = .ok (ls, sp))
    (hwp : variant = .withPath → ∃ ps ls', flattenWithPath cfg t = .ok (ps, ls', sp))
    (hrest : rests.mapM (flattenUpTo cfg.reg sp) = .error e) :
    treeMapArgs cfg variant t rests = .error e := by
  cases variant
  case withPath =>
    obtain ⟨ps, ls', hp⟩ := hwp rfl
    simp [treeMapArgs, hp, hrest, Except.map, bind, Except.bind]
  all_goals simp [treeMapArgs, hflat, hrest, Except.map, bind, Except.bind]

theorem treeMapGen_eq (cfg : Cfg) (variant : MapVariant) (inplace : Bool) (f : UserFn) (t : PyObj)
    (rests : List PyObj) :
    treeMapGen cfg variant inplace f t rests =
      match treeMapArgs cfg variant t rests with
      | .error e => ⟨.error e, []⟩
      | .ok (args, sp) =>
        let calls := callAll f 0 args [] []
        match calls.1 with
        | .error e => ⟨.error e, calls.2⟩
        | .ok rs => if inplace then ⟨.ok t, calls.2⟩ else ⟨unflatten sp rs, calls.2⟩ := by
  unfold treeMapGen treeMapArgs
  cases variant
  -- by cases on every step that can fail; `accessors` is only looked at by `withAccessor`
  case plain | withAccessor =>
    cases flatten cfg t with
    | error e => rfl
    | ok p =>
      obtain ⟨ls, sp⟩ := p
      simp only [Except.map, bind, Except.bind, pure, Except.pure]
      cases rests.mapM (flattenUpTo cfg.reg sp) with
      | error e => rfl
      | ok rl => cases accessors sp <;> rfl
  case withPath =>
    cases flattenWithPath cfg t with
    | error e => rfl
    | ok p =>
      obtain ⟨ps, ls, sp⟩ := p
      simp only [Except.map, bind, Except.bind, pure, Except.pure]
      cases rests.mapM (flattenUpTo cfg.reg sp) <;> rfl

/-- The argument tuples once the first tree is flattened and every rest is matched with one sub-tree per leaf: the
i-th is `lead i ++ (leaf_i, subs_1[i], …)`, where `lead i` is what the variant puts in front (nothing, the i-th
path, the i-th accessor). -/
theorem treeMapArgs_ok (cfg : Cfg) (variant : MapVariant) (t : PyObj) (rests : List PyObj) (ls : List PyObj)
    (sp : Spec) (h : flatten cfg t = .ok (ls, sp)) (lead : Nat → List Arg)
    (hvar : match variant with
      | .plain => ∀ i, lead i = []
      | .withPath => ∃ ps, flattenWithPath cfg t = .ok (ps, ls, sp) ∧ ps.length = ls.length ∧
          ∀ i, lead i = [Arg.path ps[i]!]
      | .withAccessor => ∃ as, accessors sp = .ok as ∧ as.length = ls.length ∧ ∀ i, lead i = [Arg.acc as[i]!])
    (restLeaves : List (List PyObj)) (hrest : rests.mapM (flattenUpTo cfg.reg sp) = .ok restLeaves)
    (hlen : ∀ l ∈ restLeaves, l.length = ls.length) :
    treeMapArgs cfg variant t rests =
      .ok ((List.range ls.length).map fun i => lead i ++ (ls :: restLeaves).map fun l => Arg.obj l[i]!, sp) := by
  -- the three variants differ only in the list `ex` of leading arguments
  have hargs : ∀ ex : List (List Arg), ex.length = ls.length → (∀ i < ls.length, ex[i]! = lead i) →
      (List.range (min ex.length (zipArgs (ls :: restLeaves)).length)).map
        (fun i => ex[i]! ++ ((zipArgs (ls :: restLeaves))[i]!).map Arg.obj) =
      (List.range ls.length).map fun i => lead i ++ (ls :: restLeaves).map fun l => Arg.obj l[i]! := by
    intro ex hex hlead
    rw [zipArgs_same_length ls restLeaves hlen]
    simp only [List.length_map, List.length_range, hex, Nat.min_self]
    apply List.map_congr_left
    intro i hi
    have hi' : i < ls.length := by simpa using hi
    simp [hi', hlead i hi', List.map_map, Function.comp_def]
  cases variant
  · have e := hargs (ls.map fun _ => []) (List.length_map _) fun i hi => by simp [hi, hvar i]
    simp only [treeMapArgs, h, hrest, Except.map, bind, Except.bind, pure, Except.pure, e]
  · obtain ⟨ps, hP, hpl, hl⟩ := hvar
    have e := hargs (ps.map fun p => [Arg.path p]) (by simpa using hpl) fun i hi => by simp [hpl ▸ hi, hl i]
    simp only [treeMapArgs, hP, hrest, Except.map, bind, Except.bind, pure, Except.pure, e]
  · obtain ⟨as, hA, hal, hl⟩ := hvar
    have e := hargs (as.map fun a => [Arg.acc a]) (by simpa using hal) fun i hi => by simp [hal ▸ hi, hl i]
    simp only [treeMapArgs, h, hrest, hA, Except.map, bind, Except.bind, pure, Except.pure, e]

/-- `tree_map(f, t, *rests)` once the first tree is flattened and every rest is matched: `f` is called on the
columns of the leaf lists, and the results are unflattened -/
theorem treeMapGen_plain (cfg : Cfg) (f : UserFn) (t : PyObj) (rests : List PyObj) (ls : List PyObj) (sp : Spec)
    (h : flatten cfg t = .ok (ls, sp)) (restLeaves : List (List PyObj))
    (hrest : rests.mapM (flattenUpTo cfg.reg sp) = .ok restLeaves) (hlen : ∀ l ∈ restLeaves, l.length = ls.length) :
    (treeMapGen cfg .plain false f t rests).result =
      match (callAll f 0 ((zipArgs (ls :: restLeaves)).map (·.map Arg.obj)) [] []).1 with
      | .error e => .error e
      | .ok rs => unflatten sp rs := by
  have hargs : ((List.range ls.length).map fun i => ([] : List Arg) ++ (ls :: restLeaves).map fun l => Arg.obj l[i]!) =
      (zipArgs (ls :: restLeaves)).map (·.map Arg.obj) := by
    rw [zipArgs_same_length ls restLeaves hlen, List.map_map]
    exact List.map_congr_left fun i _ => by simp [List.map_map, Function.comp_def]
  rw [treeMapGen_eq, treeMapArgs_ok cfg .plain t rests ls sp h (fun _ => []) (fun _ => rfl) restLeaves hrest hlen, hargs]
  dsimp only
  generalize callAll f 0 _ [] [] = calls
  obtain ⟨res, log⟩ := calls
  cases res <;> rfl

end Optree
