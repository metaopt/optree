/-
  `PyTreeSpec::Transform` on encodings (refinement, for C08).

  With the identity on nodes and a leaf function that always answers the treespec of a shape `b`, the left-to-right
  loop with its stack of pending (num_leaves, num_nodes) pairs produces the encoding of `a.subst b`, the shape
  `compose` builds (`transform_enc`).  With a node function that answers, for the one-level treespec of every
  internal node, a one-level treespec of the same arity, the run is related record by record (`NRel`, `loop_rel`) to
  the identity-on-nodes run over the tree with every node's information rewritten (`STree.mapInfo`); that gives
  `transform_node_enc`.
-/
import OptreeModel.Lemmas.EncInspect
-- for `List.Forall₂` (Batteries)
import OptreeModel.Lemmas.Compat

namespace Optree

/-! ### one iteration -/

/-- a treespec whose namespace is ours or empty leaves the common namespace as it is -/
theorem nsMerge_ok {nsT ns : String} (h : nsT = ns ∨ nsT = "") :
    (if (nsT != "") = true then
        (if (ns == "") = true then Except.ok nsT
         else if (nsT != ns) = true then Except.error Err.value else Except.ok ns)
        else Except.ok ns : Except Err String) = .ok ns := by
  rcases h with rfl | rfl
  · by_cases h0 : nsT = "" <;> simp [h0]
  · rfl

theorem transformStep_leaf (sp : Spec) (fNode : Option (Spec → Except Err Spec)) (f : Spec → Except Err Spec)
    (st : TransformState) (tr : Spec) (htr : f (oneLevelOf sp Node.leaf) = .ok tr)
    (hnil : tr.noneIsLeaf = sp.noneIsLeaf) (hns : tr.ns = st.ns ∨ tr.ns = "") (hs : tr.sane = true) :
    transformStep sp fNode (some f) st Node.leaf =
      .ok { nodes := st.nodes ++ tr.nodes, ns := st.ns
            pending := (tr.numLeaves, tr.numNodes) :: st.pending
            extraLeaves := st.extraLeaves + (tr.numLeaves : Int) - 1
            extraNodes := st.extraNodes + (tr.numNodes : Int) - 1 } := by
  have hk : Node.leaf.kind = .leaf := rfl
  unfold transformStep
  simp only [hk, beq_self_eq_true, if_true, htr, hnil, bne_self_eq_false, Bool.false_eq_true, if_false,
    nsMerge_ok hns, hs, Bool.not_true]

/-- the one-level treespec of a node with information `i` and `n` children (what `one_level()` returns and a node
function of `transform` is given): `n` leaf records under the root record, whose counts are those of `n` leaves -/
def olSpec (nil : Bool) (ns : String) (i : NInfo) (n : Nat) : Spec :=
  { nodes := List.replicate n Node.leaf ++ [Node.mk i.kind n i.data i.entries i.custom n (n + 1) i.originalKeys]
    noneIsLeaf := nil, ns := ns }

theorem oneLevelOf_toNode (sp : Spec) (i : NInfo) (k l m : Nat) (hk : i.kind ≠ .leaf) :
    oneLevelOf sp (i.toNode k l m) = olSpec sp.noneIsLeaf sp.ns i k := by
  have : (i.kind == Kind.leaf) = false := by simp [hk]
  simp [oneLevelOf, olSpec, NInfo.toNode, this]

theorem olSpec_numLeaves (nil : Bool) (ns : String) (i : NInfo) (n : Nat) : (olSpec nil ns i n).numLeaves = n := by
  simp [olSpec, Spec.numLeaves]

theorem olSpec_numNodes (nil : Bool) (ns : String) (i : NInfo) (n : Nat) : (olSpec nil ns i n).numNodes = n + 1 := by
  simp [olSpec, Spec.numNodes]

theorem olSpec_getLast? (nil : Bool) (ns : String) (i : NInfo) (n : Nat) :
    (olSpec nil ns i n).nodes.getLast? = some (i.toNode n n (n + 1)) := by
  simp [olSpec, NInfo.toNode]

/-- `htr`: the node function, or the identity when there is none, answers a one-level treespec of the same arity `k`,
with information `i'` -/
theorem step_node (sp : Spec) (fNode fLeaf : Option (Spec → Except Err Spec)) (st : TransformState)
    (hst : st.ns = sp.ns) (i i' : NInfo) (k l m : Nat) (hk : i.kind ≠ .leaf) (nsT : String)
    (hnsT : nsT = sp.ns ∨ nsT = "")
    (htr : (match fNode with
      | Option.none => Except.ok (olSpec sp.noneIsLeaf sp.ns i k)
      | some f => f (olSpec sp.noneIsLeaf sp.ns i k)) = .ok (olSpec sp.noneIsLeaf nsT i' k)) :
    transformStep sp fNode fLeaf st (i.toNode k l m) =
      match popSum k st.pending with
      | Option.none => .error .internal
      | some ((l', m'), pend) =>
          .ok { st with nodes := st.nodes ++ [Node.mk i'.kind k i'.data i'.entries i'.custom l' (m' + 1) i'.originalKeys]
                        pending := (l', m' + 1) :: pend } := by
  have hkb : ((i.toNode k l m).kind == Kind.leaf) = false := by simp [hk]
  have hkb' : ((i.toNode k l m).kind != Kind.leaf) = true := by simp [hk]
  have hnil : (olSpec sp.noneIsLeaf nsT i' k).noneIsLeaf = sp.noneIsLeaf := rfl
  have hns : (olSpec sp.noneIsLeaf nsT i' k).ns = st.ns ∨ (olSpec sp.noneIsLeaf nsT i' k).ns = "" := hst.symm ▸ hnsT
  unfold transformStep
  -- the answer passes the checks on flag, namespace and counts; its last record is the one of `i'`
  cases fNode <;>
    simp only [oneLevelOf_toNode sp i k l m hk, hkb, Bool.false_eq_true, if_false, htr, hnil, bne_self_eq_false,
      nsMerge_ok hns, hkb', if_true, NInfo.toNode_arity, olSpec_numLeaves, olSpec_numNodes, olSpec_getLast?] <;>
    cases popSum k st.pending <;> rfl

/-! ### the loop over an encoding -/

theorem popSum_append (ps rest : List (Nat × Nat)) :
    popSum ps.length (ps ++ rest) = some (((ps.map (·.1)).sum, (ps.map (·.2)).sum), rest) := by
  induction ps with
  | nil => rfl
  | cons p ps ih => simp only [List.length_cons, List.cons_append, popSum, ih, List.map_cons, List.sum_cons]

/-- the stack entries the children of a node leave behind (last child on top) -/
def pendOf (b : STree) (cs : List STree) : List (Nat × Nat) :=
  cs.reverse.map fun c => ((c.subst b).leaves, (c.subst b).size)

theorem popSum_pendOf (b : STree) (cs : List STree) (rest : List (Nat × Nat)) :
    popSum cs.length (pendOf b cs ++ rest) =
      some ((STree.leavesL (STree.substL cs b), STree.sizeL (STree.substL cs b)), rest) := by
  have h := popSum_append (pendOf b cs) rest
  rw [show (pendOf b cs).length = cs.length by simp [pendOf]] at h
  rw [h, STree.leavesL_eq_sum, STree.sizeL_eq_sum, STree.substL_eq_map]
  simp only [pendOf, List.map_map, List.map_reverse, List.sum_reverse, Function.comp_def]

/-- the state after the loop has consumed the encoding of `a` -/
def stAfter (b : STree) (st : TransformState) (a : STree) : TransformState :=
  { nodes := st.nodes ++ (a.subst b).enc
    ns := st.ns
    pending := ((a.subst b).leaves, (a.subst b).size) :: st.pending
    extraLeaves := st.extraLeaves + (a.leaves : Int) * ((b.leaves : Int) - 1)
    extraNodes := st.extraNodes + (a.leaves : Int) * ((b.size : Int) - 1) }

def stAfterL (b : STree) (st : TransformState) (cs : List STree) : TransformState :=
  { nodes := st.nodes ++ STree.encL (STree.substL cs b)
    ns := st.ns
    pending := pendOf b cs ++ st.pending
    extraLeaves := st.extraLeaves + (STree.leavesL cs : Int) * ((b.leaves : Int) - 1)
    extraNodes := st.extraNodes + (STree.leavesL cs : Int) * ((b.size : Int) - 1) }

theorem stAfterL_nil (b : STree) (st : TransformState) : stAfterL b st [] = st := by
  simp only [stAfterL, STree.substL, STree.encL, List.append_nil, pendOf, List.reverse_nil, List.map_nil,
    List.nil_append, STree.leavesL, Int.natCast_zero, Int.zero_mul, Int.add_zero]

theorem stAfterL_cons (b : STree) (st : TransformState) (c : STree) (cs : List STree) :
    stAfterL b (stAfter b st c) cs = stAfterL b st (c :: cs) := by
  simp only [stAfterL, stAfter, STree.substL, STree.encL, List.append_assoc, pendOf, List.reverse_cons,
    List.map_append, List.map_cons, List.map_nil, List.singleton_append, STree.leavesL, Int.natCast_add, Int.add_mul,
    Int.add_assoc]

mutual
theorem transformLoop_enc (sp : Spec) (b : STree) (nsb : String)
    (hnsb : nsb = sp.ns ∨ nsb = "") :
    ∀ a : STree, a.wf = true → ∀ (st : TransformState) (rest : List Node), st.ns = sp.ns →
      transformLoop sp Option.none (some fun _ => .ok (b.spec sp.noneIsLeaf nsb)) st (a.enc ++ rest) =
        transformLoop sp Option.none (some fun _ => .ok (b.spec sp.noneIsLeaf nsb)) (stAfter b st a) rest
  | .leaf, _, st, rest, hst => by
      rw [STree.enc, List.singleton_append, transformLoop,
        transformStep_leaf sp _ _ st (b.spec sp.noneIsLeaf nsb) rfl rfl (hst.symm ▸ hnsb) (b.spec_sane ..),
        STree.spec_numLeaves, STree.spec_numNodes]
      simp only [stAfter, STree.subst, STree.leaves, Int.natCast_one, Int.one_mul, Int.add_sub_assoc]
      rfl
  | .node i cs, ha, st, rest, hst => by
      obtain ⟨hnl, _, _, hw⟩ := STree.wf_node ha
      rw [STree.enc, List.append_assoc, List.singleton_append, transformLoop_encL sp b nsb hnsb cs hw st _ hst,
        transformLoop, step_node sp Option.none _ (stAfterL b st cs) hst i i _ _ _ hnl sp.ns (.inl rfl) rfl]
      simp only [stAfterL, popSum_pendOf, stAfter, STree.subst, STree.enc, STree.leaves, STree.size,
        STree.substL_length, List.append_assoc]
      rfl
theorem transformLoop_encL (sp : Spec) (b : STree) (nsb : String) (hnsb : nsb = sp.ns ∨ nsb = "") :
    ∀ cs : List STree, STree.wfL cs = true → ∀ (st : TransformState) (rest : List Node), st.ns = sp.ns →
      transformLoop sp Option.none (some fun _ => .ok (b.spec sp.noneIsLeaf nsb)) st (STree.encL cs ++ rest) =
        transformLoop sp Option.none (some fun _ => .ok (b.spec sp.noneIsLeaf nsb)) (stAfterL b st cs) rest
  | [], _, st, rest, _ => by rw [STree.encL, List.nil_append, stAfterL_nil]
  | c :: cs, hw, st, rest, hst => by
      rw [STree.wfL_cons] at hw
      rw [STree.encL, List.append_assoc, transformLoop_enc sp b nsb hnsb c hw.1 st _ hst,
        transformLoop_encL sp b nsb hnsb cs hw.2 (stAfter b st c) rest hst, stAfterL_cons]
end

/-! ### the checks after the loop -/

theorem transform_of_loop {sp : Spec} {fNode fLeaf : Option (Spec → Except Err Spec)} {st : TransformState}
    {root : Node} (hs : sp.sane = true) (hf : (fNode.isNone && fLeaf.isNone) = false)
    (hloop : transformLoop sp fNode fLeaf ⟨[], sp.ns, [], 0, 0⟩ sp.nodes = .ok st) (hp : st.pending.length = 1)
    (hr : st.nodes.getLast? = some root) (hl : (root.numLeaves : Int) = (sp.numLeaves : Int) + st.extraLeaves)
    (hn : (root.numNodes : Int) = (sp.numNodes : Int) + st.extraNodes)
    (hsane : Spec.sane ⟨st.nodes, sp.noneIsLeaf, st.ns⟩ = true) :
    transform sp fNode fLeaf = .ok ⟨st.nodes, sp.noneIsLeaf, st.ns⟩ := by
  simp only [transform, hs, hf, hloop, hp, hr, hl, hn, hsane, Bool.not_true, Bool.false_eq_true, if_false,
    bne_self_eq_false]

/-- the loop's signed bookkeeping (`extra = leaves · (n − 1)`) read off a count equation over the naturals -/
theorem count_after {p q l n : Nat} (h : p + l = q + l * n) :
    (p : Int) = (q : Int) + (0 + (l : Int) * ((n : Int) - 1)) := by
  rw [Int.zero_add, Int.mul_sub, Int.mul_one, ← Int.add_sub_assoc, ← Int.natCast_mul, ← Int.natCast_add, ← h,
    Int.natCast_add, Int.add_sub_cancel]

/-- The checks after the loop pass because the counts the loop kept are those of `a'.subst b` (`count_after`).  `a'` is
`a` for `transform_enc` and `a.mapInfo g` for `transform_node_enc`: a shape with the leaf and node counts of `a`. -/
theorem transform_of_stAfter (a a' b : STree) (nil : Bool) (ns : String)
    (fNode fLeaf : Option (Spec → Except Err Spec)) (hf : (fNode.isNone && fLeaf.isNone) = false)
    (hl : a'.leaves = a.leaves) (hs : a'.size = a.size)
    (hloop : transformLoop (a.spec nil ns) fNode fLeaf ⟨[], ns, [], 0, 0⟩ a.enc =
      .ok (stAfter b ⟨[], ns, [], 0, 0⟩ a')) :
    transform (a.spec nil ns) fNode fLeaf = .ok ((a'.subst b).spec nil ns) := by
  refine transform_of_loop (a.spec_sane nil ns) hf hloop rfl (STree.append_enc_getLast? ..) ?_ ?_
    (STree.spec_sane ..)
  · rw [STree.root_numLeaves, STree.spec_numLeaves]
    exact count_after (by rw [STree.subst_leaves, ← hl, Nat.add_comm])
  · rw [STree.root_numNodes, STree.spec_numNodes]
    exact count_after (by rw [← hs]; exact STree.subst_size b a')

/-- **`transform` with the identity on nodes and a leaf function answering the treespec of `b` builds the
encoding of `a.subst b`** (the shape `compose` builds), keeping the namespace -/
theorem transform_enc (a b : STree) (ha : a.wf = true) (nil : Bool) (ns nsb : String)
    (hnsb : nsb = ns ∨ nsb = "") :
    transform (a.spec nil ns) Option.none (some fun _ => .ok (b.spec nil nsb)) =
      .ok ((a.subst b).spec nil ns) := by
  have hloop := transformLoop_enc (a.spec nil ns) b nsb hnsb a ha ⟨[], ns, [], 0, 0⟩ [] rfl
  rw [List.append_nil] at hloop
  exact transform_of_stAfter a a b nil ns _ _ rfl rfl rfl hloop

/-! ### a node function: the run record by record against the rewritten tree -/

mutual
/-- rewrite the information of every internal node (what `transform` does with a node function that answers a
one-level treespec of the same arity) -/
def STree.mapInfo (g : NInfo → Nat → NInfo) : STree → STree
  | .leaf => .leaf
  | .node i cs => .node (g i cs.length) (STree.mapInfoL g cs)
def STree.mapInfoL (g : NInfo → Nat → NInfo) : List STree → List STree
  | [] => []
  | c :: cs => c.mapInfo g :: STree.mapInfoL g cs
end

theorem STree.mapInfoL_length (g : NInfo → Nat → NInfo) : ∀ cs : List STree, (STree.mapInfoL g cs).length = cs.length
  | [] => rfl
  | c :: cs => by simp [STree.mapInfoL, STree.mapInfoL_length g cs]

mutual
theorem STree.mapInfo_leaves (g : NInfo → Nat → NInfo) : ∀ a : STree, (a.mapInfo g).leaves = a.leaves
  | .leaf => rfl
  | .node i cs => by simp [STree.mapInfo, STree.leaves, STree.mapInfoL_leaves g cs]
theorem STree.mapInfoL_leaves (g : NInfo → Nat → NInfo) : ∀ cs : List STree,
    STree.leavesL (STree.mapInfoL g cs) = STree.leavesL cs
  | [] => rfl
  | c :: cs => by simp [STree.mapInfoL, STree.leavesL, STree.mapInfo_leaves g c, STree.mapInfoL_leaves g cs]
end

mutual
theorem STree.mapInfo_size (g : NInfo → Nat → NInfo) : ∀ a : STree, (a.mapInfo g).size = a.size
  | .leaf => rfl
  | .node i cs => by simp [STree.mapInfo, STree.size, STree.mapInfoL_size g cs]
theorem STree.mapInfoL_size (g : NInfo → Nat → NInfo) : ∀ cs : List STree,
    STree.sizeL (STree.mapInfoL g cs) = STree.sizeL cs
  | [] => rfl
  | c :: cs => by simp [STree.mapInfoL, STree.sizeL, STree.mapInfo_size g c, STree.mapInfoL_size g cs]
end

inductive NRel (g : NInfo → Nat → NInfo) : Node → Node → Prop
  | leaf : NRel g Node.leaf Node.leaf
  | node (i : NInfo) (k l m : Nat) : i.kind ≠ .leaf → (g i k).kind ≠ .leaf →
      NRel g (i.toNode k l m) ((g i k).toNode k l m)

theorem forall₂_append' {α β : Type} {R : α → β → Prop} {a c : List α} {b d : List β}
    (h1 : List.Forall₂ R a b) (h2 : List.Forall₂ R c d) : List.Forall₂ R (a ++ c) (b ++ d) := by
  induction h1 with
  | nil => simpa using h2
  | cons h _ ih => exact List.Forall₂.cons h ih

mutual
theorem enc_rel (g : NInfo → Nat → NInfo) : ∀ a : STree, a.wf = true → (a.mapInfo g).wf = true →
    List.Forall₂ (NRel g) a.enc (a.mapInfo g).enc
  | .leaf, _, _ => by simp [STree.enc, STree.mapInfo]; exact NRel.leaf
  | .node i cs, hw, hw' => by
      obtain ⟨hnl, _, _, hwl⟩ := STree.wf_node hw
      simp only [STree.mapInfo] at hw'
      obtain ⟨hnl', _, _, hwl'⟩ := STree.wf_node hw'
      simp only [STree.enc, STree.mapInfo]
      apply forall₂_append' (encL_rel g cs hwl hwl')
      refine List.Forall₂.cons ?_ List.Forall₂.nil
      rw [STree.mapInfoL_length, STree.mapInfoL_leaves, STree.mapInfoL_size]
      exact NRel.node i cs.length _ _ hnl (by simpa [STree.mapInfoL_length] using hnl')
theorem encL_rel (g : NInfo → Nat → NInfo) : ∀ cs : List STree, STree.wfL cs = true →
    STree.wfL (STree.mapInfoL g cs) = true → List.Forall₂ (NRel g) (STree.encL cs) (STree.encL (STree.mapInfoL g cs))
  | [], _, _ => by simp [STree.encL, STree.mapInfoL]
  | c :: cs, hw, hw' => by
      rw [STree.wfL_cons] at hw
      rw [STree.mapInfoL, STree.wfL_cons] at hw'
      simp only [STree.encL, STree.mapInfoL]
      exact forall₂_append' (enc_rel g c hw.1 hw'.1) (encL_rel g cs hw.2 hw'.2)
end


section
variable (sp : Spec) (g : NInfo → Nat → NInfo) (fN : Spec → Except Err Spec) (b : STree) (nsb : String)
  (hnsb : nsb = sp.ns ∨ nsb = "")
  (hN : ∀ (i : NInfo) (k : Nat), i.kind ≠ .leaf → ∃ nsT, (nsT = sp.ns ∨ nsT = "") ∧
    fN (olSpec sp.noneIsLeaf sp.ns i k) = .ok (olSpec sp.noneIsLeaf nsT (g i k) k))

include hN in
theorem step_rel (st : TransformState) (hst : st.ns = sp.ns) (n n' : Node) (h : NRel g n n') :
    transformStep sp (some fN) (some fun _ => .ok (b.spec sp.noneIsLeaf nsb)) st n =
      transformStep sp Option.none (some fun _ => .ok (b.spec sp.noneIsLeaf nsb)) st n' := by
  cases h with
  | leaf => simp only [transformStep, Node.leaf, beq_self_eq_true, if_true]
  | node i k l m hk hk' =>
    obtain ⟨nsT, hnsT, hf⟩ := hN i k hk
    rw [step_node sp (some fN) _ st hst i (g i k) k l m hk nsT hnsT hf,
      step_node sp Option.none _ st hst (g i k) (g i k) k l m hk' sp.ns (Or.inl rfl) rfl]

include hnsb in
theorem step_ns (st st' : TransformState) (hst : st.ns = sp.ns) (n n' : Node)
    (h : NRel g n n')
    (hstep : transformStep sp Option.none (some fun _ => .ok (b.spec sp.noneIsLeaf nsb)) st n' = .ok st') :
    st'.ns = sp.ns := by
  cases h with
  | leaf =>
    rw [transformStep_leaf sp _ _ st (b.spec sp.noneIsLeaf nsb) rfl rfl (hst.symm ▸ hnsb) (b.spec_sane ..)] at hstep
    cases hstep; exact hst
  | node i k l m hk hk' =>
    rw [step_node sp Option.none _ st hst (g i k) (g i k) k l m hk' sp.ns (Or.inl rfl) rfl] at hstep
    cases hp : popSum k st.pending with
    | none => simp [hp] at hstep
    | some r =>
      obtain ⟨⟨l', m'⟩, pend⟩ := r
      simp only [hp, Except.ok.injEq] at hstep
      rw [← hstep]; exact hst

include hN hnsb in
theorem loop_rel (xs xs' : List Node) (h : List.Forall₂ (NRel g) xs xs') :
    ∀ st : TransformState, st.ns = sp.ns →
      transformLoop sp (some fN) (some fun _ => .ok (b.spec sp.noneIsLeaf nsb)) st xs =
        transformLoop sp Option.none (some fun _ => .ok (b.spec sp.noneIsLeaf nsb)) st xs' := by
  induction h with
  | nil => intro st _; rfl
  | cons hr _ ih =>
    intro st hst
    simp only [transformLoop]
    rw [step_rel sp g fN b nsb hN st hst _ _ hr]
    cases hs : transformStep sp Option.none (some fun _ => .ok (b.spec sp.noneIsLeaf nsb)) st _ with
    | error e => rfl
    | ok st' => exact ih st' (step_ns sp g b nsb hnsb st st' hst _ _ hr hs)
end

/-- **`transform` with a node function**: if the node function answers, for the one-level treespec of a node with
information `i` and `k` children, the one-level treespec of `g i k` with `k` children (namespace kept or dropped), and
the leaf function always answers the treespec of `b`, the result is the encoding of `a` with every node's
information rewritten by `g` and every leaf replaced by `b` -/
theorem transform_node_enc (a b : STree) (g : NInfo → Nat → NInfo) (ha : a.wf = true) (ha' : (a.mapInfo g).wf = true)
    (nil : Bool) (ns nsb : String) (hnsb : nsb = ns ∨ nsb = "") (fN : Spec → Except Err Spec)
    (hN : ∀ (i : NInfo) (k : Nat), i.kind ≠ .leaf → ∃ nsT, (nsT = ns ∨ nsT = "") ∧
      fN (olSpec nil ns i k) = .ok (olSpec nil nsT (g i k) k)) :
    transform (a.spec nil ns) (some fN) (some fun _ => .ok (b.spec nil nsb)) =
      .ok (((a.mapInfo g).subst b).spec nil ns) := by
  have hl := loop_rel (a.spec nil ns) g fN b nsb hnsb hN a.enc (a.mapInfo g).enc (enc_rel g a ha ha')
    ⟨[], ns, [], 0, 0⟩ rfl
  have hloop := transformLoop_enc (a.spec nil ns) b nsb hnsb (a.mapInfo g) ha' ⟨[], ns, [], 0, 0⟩ [] rfl
  rw [List.append_nil] at hloop
  exact transform_of_stAfter a (a.mapInfo g) b nil ns _ _ rfl (STree.mapInfo_leaves g a) (STree.mapInfo_size g a)
    (hl.trans hloop)

end Optree
