/-
  Grafting: replacing every leaf of a tree by a tree.

  `PyObj.mapLeaves cfg σ t` replaces each object that `flatten` (without a predicate) treats as a leaf of
  `t` by `σ leaf`.  When every `σ leaf` has one and the same shape `b`, the shape of the grafted tree is
  `compose` at tree level (`STree.subst`), and its leaves are the leaves of the `σ leaf`, in order.  This
  is the tree-level meaning of `PyTreeSpec.compose` ("an a-shaped tree whose every leaf is a b-shaped
  tree") and of the shapes that `tree_transpose` works with.
-/
import OptreeModel.Lemmas.ShapeOf
import OptreeModel.Lemmas.Leaves

namespace Optree

mutual
def PyObj.mapLeaves (cfg : Cfg) (σ : PyObj → PyObj) : PyObj → PyObj
  | x@(.leaf _ _) => σ x
  | .none => if cfg.noneIsLeaf then σ .none else .none
  | .tuple xs => .tuple (PyObj.mapLeavesList cfg σ xs)
  | .list xs => .list (PyObj.mapLeavesList cfg σ xs)
  | .dict kvs => .dict (PyObj.mapLeavesKVs cfg σ kvs)
  | .odict kvs => .odict (PyObj.mapLeavesKVs cfg σ kvs)
  | .ddict f kvs => .ddict f (PyObj.mapLeavesKVs cfg σ kvs)
  | .deque m xs => .deque m (PyObj.mapLeavesList cfg σ xs)
  | .ntuple cls xs => .ntuple cls (PyObj.mapLeavesList cfg σ xs)
  | .sseq cls xs => .sseq cls (PyObj.mapLeavesList cfg σ xs)
  | x@(.user cls md q xs) =>
      match cfg.reg.lookup cfg.ns 0 cls with
      | some _ => .user cls md q (PyObj.mapLeavesList cfg σ xs)
      | Option.none => σ x
def PyObj.mapLeavesList (cfg : Cfg) (σ : PyObj → PyObj) : List PyObj → List PyObj
  | [] => []
  | x :: xs => PyObj.mapLeaves cfg σ x :: PyObj.mapLeavesList cfg σ xs
def PyObj.mapLeavesKVs (cfg : Cfg) (σ : PyObj → PyObj) : List (Key × PyObj) → List (Key × PyObj)
  | [] => []
  | (k, x) :: xs => (k, PyObj.mapLeaves cfg σ x) :: PyObj.mapLeavesKVs cfg σ xs
end

theorem PyObj.mapLeavesList_eq (cfg : Cfg) (σ : PyObj → PyObj) (xs : List PyObj) :
    PyObj.mapLeavesList cfg σ xs = xs.map (PyObj.mapLeaves cfg σ) := by
  induction xs with
  | nil => rfl
  | cons x xs ih => simp [PyObj.mapLeavesList, ih]

theorem PyObj.mapLeavesKVs_eq (cfg : Cfg) (σ : PyObj → PyObj) (kvs : List (Key × PyObj)) :
    PyObj.mapLeavesKVs cfg σ kvs = kvs.map fun p => (p.1, p.2.mapLeaves cfg σ) := by
  induction kvs with
  | nil => rfl
  | cons p kvs ih => obtain ⟨k, x⟩ := p; simp [PyObj.mapLeavesKVs, ih]

theorem PyObj.mapLeavesList_length (cfg : Cfg) (σ : PyObj → PyObj) (xs : List PyObj) :
    (PyObj.mapLeavesList cfg σ xs).length = xs.length := by
  rw [PyObj.mapLeavesList_eq, List.length_map]

theorem PyObj.mapLeavesKVs_keys (cfg : Cfg) (σ : PyObj → PyObj) (kvs : List (Key × PyObj)) :
    (PyObj.mapLeavesKVs cfg σ kvs).map (·.1) = kvs.map (·.1) := by
  rw [PyObj.mapLeavesKVs_eq, List.map_map]; rfl

theorem PyObj.mapLeavesKVs_length (cfg : Cfg) (σ : PyObj → PyObj) (kvs : List (Key × PyObj)) :
    (PyObj.mapLeavesKVs cfg σ kvs).length = kvs.length := by
  rw [PyObj.mapLeavesKVs_eq, List.length_map]

theorem mapLeaves_view (cfg : Cfg) (s : Bool) (σ : PyObj → PyObj) (x : PyObj) :
    match x.view cfg s with
    | .leaf => x.mapLeaves cfg σ = σ x
    | .node k data ok cs =>
        (x.mapLeaves cfg σ).view cfg s = .node k data ok (cs.map (PyObj.mapLeaves cfg σ))
    | .custom reg md q cs =>
        (x.mapLeaves cfg σ).view cfg s = .custom reg md q (cs.map (PyObj.mapLeaves cfg σ)) := by
  cases x
  case none => cases hn : cfg.noneIsLeaf <;> simp [PyObj.view, PyObj.mapLeaves, hn]
  case ntuple cls xs =>
    cases hl : cfg.reg.lookup cfg.ns 1 cls <;> simp [PyObj.view, PyObj.mapLeaves, PyObj.mapLeavesList_eq, hl]
  case sseq cls xs =>
    cases hl : cfg.reg.lookup cfg.ns 2 cls <;> simp [PyObj.view, PyObj.mapLeaves, PyObj.mapLeavesList_eq, hl]
  case user cls md q xs =>
    cases hl : cfg.reg.lookup cfg.ns 0 cls <;> simp [PyObj.view, PyObj.mapLeaves, PyObj.mapLeavesList_eq, hl]
  all_goals
    simp only [PyObj.view, PyObj.mapLeaves, PyObj.mapLeavesList_eq, PyObj.mapLeavesKVs_eq, dictOrder_mapVals,
      List.map_map, Function.comp_def]

theorem shapeOf_mapLeaves (cfg : Cfg) (s : Bool) (σ : PyObj → PyObj) (b : STree)
    (hσ : ∀ p, shapeOf cfg s (σ p) = b) :
    ∀ t : PyObj, shapeOf cfg s (t.mapLeaves cfg σ) = (shapeOf cfg s t).subst b := by
  intro t
  induction t using PyObj.view_induct cfg s with | _ t ih
  have hm := mapLeaves_view cfg s σ t
  rw [shapeOf_view cfg s t]
  cases hv : t.view cfg s <;> simp only [hv, View.kids] at hm ih ⊢
  case leaf => rw [hm, hσ]; rfl
  all_goals
    rw [shapeOf_view, hm]
    simp only [STree.subst, STree.substL_eq_map, List.map_map, List.length_map]
    exact congrArg _ (List.map_congr_left ih)

theorem shapeOfList_mapLeaves (cfg : Cfg) (s : Bool) (σ : PyObj → PyObj) (b : STree)
    (hσ : ∀ p, shapeOf cfg s (σ p) = b) :
    ∀ xs : List PyObj, shapeOfList cfg s (PyObj.mapLeavesList cfg σ xs) = STree.substL (shapeOfList cfg s xs) b := by
  simp only [PyObj.mapLeavesList_eq, shapeOfList_eq, STree.substL_eq_map, List.map_map, Function.comp_def,
    shapeOf_mapLeaves cfg s σ b hσ, implies_true]

theorem shapeOfKVs_mapLeaves (cfg : Cfg) (s : Bool) (σ : PyObj → PyObj) (b : STree)
    (hσ : ∀ p, shapeOf cfg s (σ p) = b) :
    ∀ kvs : List (Key × PyObj), shapeOfKVs cfg s (PyObj.mapLeavesKVs cfg σ kvs) =
      (shapeOfKVs cfg s kvs).map fun p => (p.1, p.2.subst b) := by
  simp only [PyObj.mapLeavesKVs_eq, shapeOfKVs_eq, List.map_map, Function.comp_def,
    shapeOf_mapLeaves cfg s σ b hσ, implies_true]

theorem leavesOf_mapLeaves (cfg : Cfg) (hp : cfg.pred = Option.none) (s : Bool) (σ : PyObj → PyObj) :
    ∀ t : PyObj, leavesOf cfg s (t.mapLeaves cfg σ) = (leavesOf cfg s t).flatMap fun p => leavesOf cfg s (σ p) := by
  intro t
  induction t using PyObj.view_induct cfg s with | _ t ih
  have hm := mapLeaves_view cfg s σ t
  rw [leavesOf_view cfg s t, predTrue_none cfg hp]
  cases hv : t.view cfg s <;> simp only [hv, View.kids, Bool.false_eq_true, if_false] at hm ih ⊢
  case leaf => rw [hm, List.flatMap_singleton]
  all_goals
    rw [leavesOf_view, predTrue_none cfg hp, hm]
    simp only [Bool.false_eq_true, if_false, List.flatMap_map, List.flatMap_assoc]
    exact congrArg List.flatten (List.map_congr_left ih)

theorem leavesOfList_mapLeaves (cfg : Cfg) (hp : cfg.pred = Option.none) (s : Bool) (σ : PyObj → PyObj) :
    ∀ xs : List PyObj, leavesOfList cfg s (PyObj.mapLeavesList cfg σ xs) =
      (leavesOfList cfg s xs).flatMap fun p => leavesOf cfg s (σ p) := by
  simp only [PyObj.mapLeavesList_eq, leavesOfList_eq, ← List.flatMap_def, List.flatMap_map, List.flatMap_assoc,
    leavesOf_mapLeaves cfg hp s σ, implies_true]

theorem leavesOfKVs_mapLeaves (cfg : Cfg) (hp : cfg.pred = Option.none) (s : Bool) (σ : PyObj → PyObj) :
    ∀ kvs : List (Key × PyObj), leavesOfKVs cfg s (PyObj.mapLeavesKVs cfg σ kvs) =
      (leavesOfKVs cfg s kvs).map fun p => (p.1, p.2.flatMap fun q => leavesOf cfg s (σ q)) := by
  simp only [PyObj.mapLeavesKVs_eq, leavesOfKVs_eq, List.map_map, Function.comp_def,
    leavesOf_mapLeaves cfg hp s σ, implies_true]

theorem wf_mapLeaves (cfg : Cfg) (σ : PyObj → PyObj) (hσ : ∀ p, (σ p).wf = true) :
    ∀ t : PyObj, t.wf = true → (t.mapLeaves cfg σ).wf = true := by
  intro t
  induction t using PyObj.view_induct cfg true with | _ t ih
  intro hwf
  have hm := mapLeaves_view cfg true σ t
  have hw := PyObj.wf_iff_view cfg true t
  have hw' := PyObj.wf_iff_view cfg true (t.mapLeaves cfg σ)
  cases hv : t.view cfg true <;> simp only [hv, View.kids] at hm ih hw
  case leaf => rw [hm]; exact hσ t
  case node k data ok cs =>
    rw [hm] at hw'
    obtain ⟨h1, h2⟩ := hw.mp hwf
    exact hw'.mpr ⟨by rwa [List.length_map], List.forall_mem_map.mpr fun c hc => ih c hc (h2 c hc)⟩
  case custom reg md q cs =>
    rw [hm] at hw'
    obtain ⟨h1, h2⟩ := hw.mp hwf
    exact hw'.mpr ⟨h1, List.forall_mem_map.mpr fun c hc => ih c hc (h2 c hc)⟩

theorem wfList_mapLeaves (cfg : Cfg) (σ : PyObj → PyObj) (hσ : ∀ p, (σ p).wf = true) :
    ∀ xs : List PyObj, PyObj.wfList xs = true → PyObj.wfList (PyObj.mapLeavesList cfg σ xs) = true := by
  simp only [PyObj.mapLeavesList_eq, PyObj.wfList_iff, List.forall_mem_map]
  exact fun _ h x hx => wf_mapLeaves cfg σ hσ x (h x hx)

theorem wfKVs_mapLeaves (cfg : Cfg) (σ : PyObj → PyObj) (hσ : ∀ p, (σ p).wf = true) :
    ∀ kvs : List (Key × PyObj), PyObj.wfKVs kvs = true → PyObj.wfKVs (PyObj.mapLeavesKVs cfg σ kvs) = true := by
  simp only [PyObj.mapLeavesKVs_eq, PyObj.wfKVs_iff, List.forall_mem_map]
  exact fun _ h p hp => wf_mapLeaves cfg σ hσ p.2 (h p hp)

end Optree
