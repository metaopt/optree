/-
  `PyTreeSpec::Accessors` on encodings is the tree-level listing of typed entries `STree.accsT`
  (refinement, for C04): one accessor per leaf, in leaf order; each entry is the child entry of
  `paths()` stamped with the type, kind and path-entry class of the node it leaves.
-/
import OptreeModel.Lemmas.EncPaths

namespace Optree

/-- the node type and the (resolved) path-entry class `accessors()` stamps on the entries of the
children of a node; `none` for a `None` node, which has no children -/
def NInfo.accTy (i : NInfo) : Option (TypeRef × EntryKind) :=
  match (i.toNode 0 0 0).typeRef, (i.toNode 0 0 0).pathEntryKind with
  | .ok ty, .ok (some ek) => some (ty, resolveEntryKind ek ty)
  | _, _ => Option.none

def NInfo.accEntries (i : NInfo) (n : Nat) : List AccEntry :=
  match i.accTy with
  | some (ty, ek) => (i.childEntries n).map fun e => ⟨e, ty, i.kind, ek⟩
  | Option.none => []

mutual
/-- every internal node has a type and a path-entry class, and only registered custom nodes carry
explicit entries (what `flatten` guarantees, `ty` below) -/
def STree.typedOk : STree → Bool
  | .leaf => true
  | .node i cs =>
      (i.kind == .none || i.accTy.isSome) && (!i.entries.isSome || (i.kind == .custom && i.custom.isSome))
        && STree.typedOkL cs
def STree.typedOkL : List STree → Bool
  | [] => true
  | c :: cs => c.typedOk && STree.typedOkL cs
end

mutual
def STree.accsT : STree → List AccEntry → List (List AccEntry)
  | .leaf, pre => [pre]
  | .node i cs, pre => STree.accsL cs (i.accEntries cs.length) pre
def STree.accsL : List STree → List AccEntry → List AccEntry → List (List AccEntry)
  | c :: cs, e :: es, pre => STree.accsT c (pre ++ [e]) ++ STree.accsL cs es pre
  | _, _, _ => []
end

theorem accessorsChildren_append (fuel : Nat) (xs ys : List AccEntry) (rest : List Node) (stack : List AccEntry)
    (acc : List (List AccEntry)) :
    accessorsChildren fuel (xs ++ ys) rest stack acc =
      match accessorsChildren fuel xs rest stack acc with
      | .error e => .error e
      | .ok (acc', rest') => accessorsChildren fuel ys rest' stack acc' := by
  induction xs generalizing rest acc with
  | nil => simp [accessorsChildren]
  | cons x xs ih =>
    simp only [List.cons_append, accessorsChildren]
    cases accessorsGo fuel rest (stack ++ [x]) acc with
    | error e => rfl
    | ok p => obtain ⟨a, r⟩ := p; exact ih r a

theorem NInfo.accEntries_path (i : NInfo) (n : Nat) (h : i.accTy.isSome = true) :
    (i.accEntries n).map (·.entry) = i.childEntries n := by
  unfold NInfo.accEntries
  cases hh : i.accTy with
  | none => simp [hh] at h
  | some p => simp [List.map_map, Function.comp_def]

theorem NInfo.accEntries_length (i : NInfo) (n : Nat) (h : i.accTy.isSome = true) :
    (i.accEntries n).length = (i.childEntries n).length := by
  rw [← NInfo.accEntries_path i n h, List.length_map]

theorem NInfo.accTy_none (i : NInfo) (h : i.kind = .none) : i.accTy = Option.none := by
  simp [NInfo.accTy, Node.pathEntryKind, NInfo.toNode, h]

theorem NInfo.typeRef_toNode (i : NInfo) (n nl nn : Nat) :
    (i.toNode n nl nn).typeRef = (i.toNode 0 0 0).typeRef := rfl
theorem NInfo.pathEntryKind_toNode (i : NInfo) (n nl nn : Nat) :
    (i.toNode n nl nn).pathEntryKind = (i.toNode 0 0 0).pathEntryKind := rfl

theorem accessorsGo_node (i : NInfo) (n l m : Nat) (hk : i.kind ≠ .leaf)
    (hty : i.kind = .none ∨ i.accTy.isSome = true)
    (hent : i.entries = Option.none ∨ (i.kind = .custom ∧ i.custom.isSome = true))
    (hl : (i.childEntries n).length = n)
    (fuel : Nat) (rest : List Node) (stack : List AccEntry) (acc : List (List AccEntry)) :
    accessorsGo (fuel + 1) (i.toNode n l m :: rest) stack acc =
      accessorsChildren fuel (i.accEntries n).reverse rest stack acc := by
  have hlt : ¬ ((i.childEntries n).length < n) := Nat.not_lt.mpr (Nat.le_of_eq hl.symm)
  -- `AccessorsImpl` raises on explicit entries at a node that is not a registered custom node
  have hguard : (i.entries.isSome && (i.kind != .custom || i.custom.isNone)) = false := by
    rcases hent with h | h
    · simp [h]
    · simp [h.1, h.2]
  simp only [accessorsGo, NInfo.typeRef_toNode, NInfo.pathEntryKind_toNode, NInfo.childEntries_toNode,
    NInfo.toNode_entries, NInfo.toNode_kind, NInfo.toNode_arity, NInfo.toNode_custom, hguard, hlt,
    Bool.false_eq_true, if_false]
  unfold NInfo.accEntries NInfo.accTy
  by_cases hn : i.kind = .none
  · -- a `None` node has no entries and no entry class: the loop over its accessor entries returns at once
    have he : i.entries = Option.none := by
      rcases hent with h | h
      · exact h
      · rw [hn] at h; simp at h
    simp [hn, he, Node.typeRef, Node.pathEntryKind, NInfo.toNode, accessorsChildren]
  · -- a typed node: every child entry is stamped with the node type, the kind and the resolved entry class, which
    -- is `accEntries`
    have hsome : i.accTy.isSome = true := hty.resolve_left hn
    unfold NInfo.accTy at hsome
    cases hT : (i.toNode 0 0 0).typeRef with
    | error e => simp [hT] at hsome
    | ok ty =>
      cases hP : (i.toNode 0 0 0).pathEntryKind with
      | error e => simp [hT, hP] at hsome
      | ok ek? =>
        cases ek? with
        | none => simp [hT, hP] at hsome
        | some ek =>
          simp only [List.map_reverse]
          split
          · rename_i h1 h2; exact absurd h2 hk
          · rename_i h1 h2; exact absurd h2 hn
          · rfl

mutual
theorem accessorsGo_enc : ∀ (s : STree), s.wf = true → s.entriesOk = true → s.typedOk = true →
    ∀ (fuel : Nat), s.size ≤ fuel →
    ∀ (rest : List Node) (stack : List AccEntry) (acc : List (List AccEntry)),
      accessorsGo fuel (s.renc ++ rest) stack acc = .ok (s.accsT stack ++ acc, rest)
  | .leaf, _, _, _, fuel, hf, rest, stack, acc => by
      cases fuel with
      | zero => cases hf
      | succ f => simp [STree.renc_leaf, accessorsGo, Node.leaf, STree.accsT, Node.typeRef, Node.pathEntryKind]
  | .node i cs, hw, hk, ht, fuel, hf, rest, stack, acc => by
      cases fuel with
      | zero => cases hf
      | succ f =>
        obtain ⟨hnl, hnone, _, hwl⟩ := STree.wf_node hw
        simp only [STree.entriesOk, Bool.and_eq_true, beq_iff_eq] at hk
        simp only [STree.typedOk, Bool.and_eq_true, Bool.or_eq_true, beq_iff_eq, Bool.not_eq_true',
          Option.isSome_eq_false_iff, Option.isNone_iff_eq_none] at ht
        obtain ⟨⟨hty, hent⟩, htl⟩ := ht
        rw [STree.renc_node, List.cons_append, accessorsGo_node i _ _ _ hnl hty hent hk.1, STree.accsT]
        refine accessorsChildren_enc cs hwl hk.2 htl f (Nat.le_of_succ_le_succ hf) _ ?_ rest stack acc
        rcases hty with hn | hs
        · have := hnone hn; subst this
          simp [NInfo.accEntries, NInfo.accTy_none i hn]
        · rw [NInfo.accEntries_length i _ hs]; exact hk.1
theorem accessorsChildren_enc : ∀ (cs : List STree), STree.wfL cs = true → STree.entriesOkL cs = true →
    STree.typedOkL cs = true →
    ∀ (fuel : Nat), STree.sizeL cs ≤ fuel → ∀ (es : List AccEntry), es.length = cs.length →
    ∀ (rest : List Node) (stack : List AccEntry) (acc : List (List AccEntry)),
      accessorsChildren fuel es.reverse (STree.rencL cs ++ rest) stack acc =
        .ok (STree.accsL cs es stack ++ acc, rest)
  | [], _, _, _, fuel, _, es, hl, rest, stack, acc => by
      have : es = [] := List.length_eq_zero_iff.mp hl
      subst this
      simp [accessorsChildren, STree.rencL_nil, STree.accsL]
  | c :: cs, hw, hk, ht, fuel, hf, [], hl, _, _, _ => nomatch hl
  | c :: cs, hw, hk, ht, fuel, hf, e :: es, hl, rest, stack, acc => by
      simp only [STree.wfL, STree.entriesOkL, STree.typedOkL, Bool.and_eq_true] at hw hk ht
      simp only [STree.sizeL] at hf
      simp only [List.reverse_cons, STree.rencL_cons, List.append_assoc]
      rw [accessorsChildren_append,
        accessorsChildren_enc cs hw.2 hk.2 ht.2 fuel (Nat.le_trans (Nat.le_add_left ..) hf) es (Nat.succ.inj hl)
          (c.renc ++ rest) stack acc]
      simp only [accessorsChildren]
      rw [accessorsGo_enc c hw.1 hk.1 ht.1 fuel (Nat.le_trans (Nat.le_add_right ..) hf) rest (stack ++ [e])
        (STree.accsL cs es stack ++ acc)]
      simp only [STree.accsL, List.append_assoc]
end

mutual
theorem STree.accsT_path : ∀ (s : STree) (pre : List AccEntry), s.wf = true → s.typedOk = true →
    (s.accsT pre).map (fun a => a.map (·.entry)) = s.pathsT (pre.map (·.entry))
  | .leaf, _, _, _ => rfl
  | .node i cs, pre, hw, ht => by
      obtain ⟨_, hnone, _, hwl⟩ := STree.wf_node hw
      simp only [STree.typedOk, Bool.and_eq_true, Bool.or_eq_true, beq_iff_eq] at ht
      obtain ⟨⟨hty, _⟩, htl⟩ := ht
      simp only [STree.accsT, STree.pathsT]
      rcases hty with hn | hs
      · have := hnone hn; subst this
        simp [STree.accsL, STree.pathsL]
      · rw [STree.accsL_path cs _ pre hwl htl, NInfo.accEntries_path i _ hs]
theorem STree.accsL_path : ∀ (cs : List STree) (es pre : List AccEntry), STree.wfL cs = true →
    STree.typedOkL cs = true →
    (STree.accsL cs es pre).map (fun a => a.map (·.entry)) = STree.pathsL cs (es.map (·.entry)) (pre.map (·.entry))
  | [], _, _, _, _ => by simp [STree.accsL, STree.pathsL]
  | c :: cs, [], _, _, _ => by simp [STree.accsL, STree.pathsL]
  | c :: cs, e :: es, pre, hw, ht => by
      simp only [STree.wfL, STree.typedOkL, Bool.and_eq_true] at hw ht
      simp only [STree.accsL, STree.pathsL, List.map_append, List.map_cons,
        STree.accsT_path c (pre ++ [e]) hw.1 ht.1, STree.accsL_path cs es pre hw.2 ht.2, List.map_nil]
end

theorem STree.accsT_length (s : STree) (hw : s.wf = true) (hk : s.entriesOk = true) (ht : s.typedOk = true)
    (pre : List AccEntry) : (s.accsT pre).length = s.leaves := by
  have := congrArg List.length (STree.accsT_path s pre hw ht)
  simpa [STree.pathsT_length s _ hk] using this

/-- **`accessors()` lists, in leaf order, the typed child entries from the root to every leaf** -/
theorem accessors_enc (s : STree) (hw : s.wf = true) (hk : s.entriesOk = true) (ht : s.typedOk = true)
    (nil : Bool) (ns : String) :
    accessors (s.spec nil ns) = .ok (s.accsT []) := by
  have hlen := STree.accsT_length s hw hk ht []
  have hgo := accessorsGo_enc s hw hk ht (s.size + 1) (Nat.le_succ _) [] [] []
  rw [List.append_nil, List.append_nil, STree.renc] at hgo
  unfold accessors
  simp only [STree.spec_sane, STree.spec_numLeaves, Bool.not_true, Bool.false_eq_true, if_false]
  simp only [STree.spec, STree.enc_length, hgo, List.isEmpty_nil, hlen, bne_self_eq_false, Bool.not_true,
    Bool.false_eq_true, if_false]
  by_cases h0 : (s.leaves == 0) = true
  · rw [if_pos h0, List.eq_nil_of_length_eq_zero (hlen.trans (beq_iff_eq.mp h0))]
  · rw [if_neg h0]

theorem STree.typedOkL_iff (cs : List STree) : STree.typedOkL cs = true ↔ ∀ c ∈ cs, c.typedOk = true :=
  all_rec_iff rfl (fun _ _ => rfl) cs

theorem typedOk_plainInfo {k : Kind} {data : NodeData} {n : Nat} (h : PlainNode k data n)
    (ok : Option (List Key)) (cs : List STree) :
    (STree.node (plainInfo k data ok) cs).typedOk = STree.typedOkL cs := by
  cases h <;> rfl

theorem typedOk_customInfo (reg : Reg) (md : Option Key) (n : Nat) (cs : List STree) :
    (STree.node (customInfo reg md n) cs).typedOk = STree.typedOkL cs := by
  simp [STree.typedOk, customInfo, NInfo.accTy, Node.typeRef, Node.pathEntryKind, NInfo.toNode]

def TY (cfg : Cfg) (s : Bool) (t : PyObj) : Prop := (shapeOf cfg s t).typedOk = true

/-- Every internal node of the shape of a tree other than `None` has a node type and a path-entry class, and only
custom nodes carry explicit entries — so `accessors()` of a treespec `flatten` makes is `accsT` of the shape
(`accessors_enc`). -/
theorem ty (cfg : Cfg) (s : Bool) (t : PyObj) : TY cfg s t := by
  induction t using PyObj.view_induct cfg s with | _ t ih
  have hn := PyObj.view_plain cfg s t
  unfold TY
  rw [shapeOf_view]
  cases hv : t.view cfg s <;> simp only [hv, View.kids] at ih hn ⊢
  case leaf => rfl
  case node k data ok cs => rw [typedOk_plainInfo hn]; exact (STree.typedOkL_iff _).mpr (List.forall_mem_map.mpr ih)
  case custom reg md q cs =>
    rw [typedOk_customInfo]; exact (STree.typedOkL_iff _).mpr (List.forall_mem_map.mpr ih)

theorem tyList (cfg : Cfg) (s : Bool) : ∀ xs : List PyObj, ∀ x ∈ xs, TY cfg s x :=
  fun _ x _ => ty cfg s x

theorem tyKVs (cfg : Cfg) (s : Bool) : ∀ kvs : List (Key × PyObj), ∀ p ∈ kvs, TY cfg s p.2 :=
  fun _ p _ => ty cfg s p.2

end Optree
