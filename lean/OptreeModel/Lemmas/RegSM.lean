/-
  The registry state machine (Model/RegSM.lean) read as a guard chain: every call makes its checks in
  order, each with the error it raises; if one fires the state is left alone, otherwise one and the same
  edit is made to the three tables (registry.py: validation → lock → engine call → mirror update).
  `engineRegister_eq` and `rstep_eq` are the only places where `engineRegister` and `rstep` are unfolded;
  C12 and C17 use `rstep_passes`, `rstep_of_passes` (the state after a success), `rstep_of_raises` / `rstep_raises`
  (after a failure) and the frame lemmas about one table.
-/
import OptreeModel.Model.RegSM

namespace Optree

theorem beq_pair_false {a b : String} {x y : Nat} (h : ¬ (a = b ∧ x = y)) : (a == b && x == y) = false := by
  rw [Bool.and_eq_false_iff, beq_eq_false_iff_ne, beq_eq_false_iff_ne]
  exact Decidable.not_and_iff_not_or_not.1 h

theorem RTable.find_append_other {t : RTable} {k k' : String} {c c' r : Nat}
    (h : ¬ (k' = k ∧ c' = c)) : RTable.find (t ++ [((k, c), r)]) k' c' = t.find k' c' := by
  have hb : ((k == k') && (c == c')) = false := beq_pair_false fun h' => h ⟨h'.1.symm, h'.2.symm⟩
  simp only [RTable.find, List.find?_append, List.find?_cons, hb, List.find?_nil, Option.or_none]

theorem RTable.find_append_self {t : RTable} {k : String} {c r : Nat} :
    ((t ++ [((k, c), r)]).find k c).isSome = true := by
  unfold RTable.find
  rw [Option.isSome_map, List.find?_isSome]
  exact ⟨((k, c), r), by simp, by simp⟩

theorem RTable.find_remove_other {t : RTable} {k k' : String} {c c' : Nat}
    (h : ¬ (k' = k ∧ c' = c)) : RTable.find (t.remove k c) k' c' = t.find k' c' := by
  unfold RTable.find RTable.remove
  rw [List.find?_filter]
  congr 2
  funext e
  -- a row that matches `(k', c')` does not match `(k, c)`
  cases hq : (e.1.1 == k' && e.1.2 == c')
  · simp
  · simp only [Bool.and_eq_true, beq_iff_eq] at hq
    simp [hq.1, hq.2, beq_pair_false h]

theorem RTable.remove_of_find_none {t : RTable} {ns : String} {cls : Nat} (h : t.find ns cls = Option.none) :
    t.remove ns cls = t := by
  simp only [RTable.find, Option.map_eq_none_iff, List.find?_eq_none] at h
  exact List.filter_eq_self.mpr fun e he => by
    rw [Bool.not_eq_true']; exact Bool.eq_false_iff.2 (h e he)

theorem RTable.remove_append_self {t : RTable} {ns : String} {cls rid : Nat} (h : t.find ns cls = Option.none) :
    (t ++ [((ns, cls), rid)]).remove ns cls = t := by
  have := RTable.remove_of_find_none h
  unfold RTable.remove at this ⊢
  rw [List.filter_append, this]
  simp

/-- the error of the first check that fires: each `if … raise` of registry.py / `throw` of registry.cpp
is one `(condition, error)` -/
def firstErr : List (Bool × RErr) → Option RErr
  | [] => Option.none
  | (b, e) :: r => if b then some e else firstErr r

theorem firstErr_isSome (l : List (Bool × RErr)) : (firstErr l).isSome = l.any (·.1) := by
  induction l with
  | nil => rfl
  | cons p l ih => obtain ⟨b, e⟩ := p; cases b <;> simp [firstErr, ih]

/-- how a call ends: an error leaves the state alone; otherwise the engine's two tables and the Python
mirror get the same edit (`Register` / `Unregister` on both variants, then `_NODETYPE_REGISTRY`) -/
def RState.commit (s : RState) (f : RTable → RTable) : Option RErr → RState × Option RErr
  | some e => (s, some e)
  | Option.none => (⟨f s.node, f s.leaf, f s.mirror⟩, Option.none)

theorem RState.commit_cons (s : RState) (f : RTable → RTable) (b : Bool) (e : RErr) (r : List (Bool × RErr)) :
    s.commit f (firstErr ((b, e) :: r)) = if b = true then (s, some e) else s.commit f (firstErr r) := by
  cases b <;> rfl

/-- the checks of `PyTreeTypeRegistry::Register`: built-in type, already registered, then the warning
for namedtuple / struct-sequence classes; under the "error" filter it raises and the insertion is
rolled back, so it counts as a check made before the edit -/
def regChecks (info : Nat → ClsInfo) (w : Bool) (t : RTable) (c : Nat) (key : String) : List (Bool × RErr) :=
  [(info c == .builtin, .value), ((t.find key c).isSome, .value), ((info c).warns && w, .warning)]

/-- the checks of each call in the order of the code: the argument validation of registry.py
(`register_pytree_node_class` looks at the namespace before the class), then those of the engine -/
def ROp.checks (info : Nat → ClsInfo) (w : Bool) (t : RTable) : ROp → List (Bool × RErr)
  | .reg c ns bad =>
      (!(info c).isClass, .type_) :: (bad, .type_) :: (ns == .empty, .value) :: regChecks info w t c ns.key
  | .regClass c ns =>
      (ns == .empty, .value) :: (!(info c).isClass, .type_) :: (info c != .plain true, .attr) ::
        regChecks info w t c ns.key
  | .unreg c ns =>
      [(!(info c).isClass, .type_), (ns == .empty, .value), (info c == .builtin, .value),
       ((t.find ns.key c).isNone, .value)]

def ROp.edit (rid : Nat) : ROp → RTable → RTable
  | .reg c ns _, t | .regClass c ns, t => t ++ [((ns.key, c), rid)]
  | .unreg c ns, t => t.remove ns.key c

variable {info : Nat → ClsInfo} {w : Bool} {s : RState} {rid : Nat} {op : ROp}

theorem engineRegister_eq (c : Nat) (key : String) :
    engineRegister info w s c key rid =
      s.commit (· ++ [((key, c), rid)]) (firstErr (regChecks info w s.node c key)) := by
  simp only [regChecks, RState.commit_cons]; rfl

theorem rstep_eq : rstep info w s rid op = s.commit (op.edit rid) (firstErr (op.checks info w s.node)) := by
  cases op <;> simp only [ROp.checks, RState.commit_cons, rstep, engineRegister_eq] <;> rfl

theorem rstep_passes :
    (rstep info w s rid op).2 = Option.none ↔ (op.checks info w s.node).any (·.1) = false := by
  rw [rstep_eq, ← firstErr_isSome]
  cases firstErr (op.checks info w s.node) <;> simp [RState.commit]

theorem rstep_of_passes (h : (op.checks info w s.node).any (·.1) = false) :
    rstep info w s rid op =
      (⟨op.edit rid s.node, op.edit rid s.leaf, op.edit rid s.mirror⟩, Option.none) := by
  rw [← firstErr_isSome, Option.isSome_eq_false_iff, Option.isNone_iff_eq_none] at h
  rw [rstep_eq, h]; rfl

theorem rstep_of_raises (h : (op.checks info w s.node).any (·.1) = true) :
    ∃ e, rstep info w s rid op = (s, some e) := by
  rw [← firstErr_isSome, Option.isSome_iff_exists] at h
  obtain ⟨e, he⟩ := h
  exact ⟨e, by rw [rstep_eq, he]; rfl⟩

theorem rstep_raises (h : (op.checks info w s.node).any (·.1) = true) : (rstep info w s rid op).2.isSome := by
  obtain ⟨e, he⟩ := rstep_of_raises (rid := rid) h
  rw [he]; rfl

theorem rrun_eq_rrunW (info : Nat → ClsInfo) (w : Bool) (s : RState) (i : Nat) (ops : List ROp) :
    rrun info w s i ops = rrunW info s i (ops.map (w, ·)) := by
  induction ops generalizing s i with
  | nil => rfl
  | cons op ops ih => exact ih _ _

end Optree
