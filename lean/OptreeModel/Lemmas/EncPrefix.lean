/-
  `PyTreeSpec::IsPrefix` on encodings is the tree-level prefix relation `STree.prefixB` (refinement, for C07).

  The array walk goes over the *reversed* arrays; for dict-kind nodes with differing key order it cuts the other
  array's children into segments and re-orders them (`cutSegments`, `reorderSegments`).  At tree level that is "pair
  the children by key" (`alignC`).  `isPrefixGo_node` is the array-side twin of `STree.prefixB_nf`; `isPrefixGo_enc`
  is read off the two.  The statement about `is_prefix` itself is `C07_is_prefix_refines` in C07.lean.
-/
import OptreeModel.Lemmas.PrefixOrder

namespace Optree

theorem cutSegments_flatten (rs : List STree) (tail : List Node) :
    cutSegments rs.length ((rs.map STree.renc).flatten ++ tail) = .ok (rs.map STree.renc, tail) := by
  induction rs with
  | nil => rfl
  | cons r rs ih =>
    rw [List.length_cons, List.map_cons, List.flatten_cons, List.append_assoc, STree.renc_cons, cutSegments,
      ← STree.renc_cons]
    simp only [STree.root_numNodes, STree.renc_guard, STree.renc_append_take, STree.renc_append_drop, ih,
      Bool.false_eq_true, if_false]

theorem reorderSegments_renc (ks oks : List Key) (ds : List STree) (hlen : oks.length = ds.length)
    (hmem : ∀ k ∈ ks, k ∈ oks) :
    reorderSegments ks oks (ds.reverse.map STree.renc) =
      .ok ((pickD ks oks ds).reverse.map STree.renc) := by
  rw [reorderSegments, pickD, ← List.filterMap_reverse]
  refine mapM_except_filterMap _ _ _ _ fun k hk => ?_
  obtain ⟨j, d, hj, hd, hl⟩ := lookupChild_of_mem hlen (hmem k (List.mem_reverse.mp hk))
  have hjl := (List.getElem?_eq_some_iff.mp hd).1
  refine ⟨d, hl, ?_⟩
  -- segment `arity - 1 - j` of the reversed list is child `j`
  simp only [hj, hlen, List.getElem?_map, List.getElem?_reverse (Nat.sub_one_sub_lt hjl),
    Nat.sub_sub_self (Nat.le_sub_one_of_lt hjl), hd, Option.map_some]

def dataKeys (d : NodeData) : List Key :=
  match d with
  | .keys ks => ks
  | .ddict _ ks => ks
  | _ => []

theorem Node.keys_eq (n : Node) : n.keys = dataKeys n.data := rfl
theorem NInfo.keys_eq (i : NInfo) : i.keys = dataKeys i.data := rfl

theorem STree.sameB_leaf (b : STree) (hb : b.wf = true) : STree.sameB .leaf b = (b.root.kind == Kind.leaf) := by
  cases b with
  | leaf => rfl
  | node j ds => exact (Bool.eq_false_iff.mpr fun h => (STree.wf_node hb).1 (eq_of_beq h)).symm

theorem isPrefixGo_leaf (strict : Bool) (as : List Node) (b : Node) (brest : List Node) (m : Bool) :
    isPrefixGo strict (Node.leaf :: as) (b :: brest) m =
      if b.numNodes == 0 || (b :: brest).length < b.numNodes then .error .internal
      else isPrefixGo strict as ((b :: brest).drop b.numNodes) (m && b.kind == .leaf) := by
  rfl

/-- what is left of `IsPrefix` once two records are found compatible -/
def prefixCont (strict : Bool) (a b : Node) (as : List Node) (m : Bool) (brest' : List Node) : Except Err Bool :=
  if a.numNodes > b.numNodes then .ok false else isPrefixGo strict as brest' m

/-! The rows of early exits `IsPrefix` has for the three classes of kinds, each read as one test (`dk`: the kind
is a dict kind, `kq`: the key orders differ).  Every row leaves at its first failing test. -/

theorem exits_seq {α : Type} (ae se ce ke dk kq : Bool) (x y z : α) (h : dk = false) :
    (if (!ae || !se || !ce) = true then x else if (!ke) = true then x else y) =
      if (ae && (se && ce && ke)) = true then (if (dk && kq) = true then z else y) else x := by
  subst h
  cases ae
  · rfl
  cases se
  · rfl
  cases ce
  · rfl
  cases ke <;> rfl

theorem exits_dict {α : Type} (ae se ce bd ks dk kq : Bool) (x y z : α) (h : dk = true) :
    (if (!ae || !se || !ce) = true then x else if (!bd) = true then x else if (!ks) = true then x else
        if kq = true then z else y) =
      if (ae && (se && ce && (bd && ks))) = true then (if (dk && kq) = true then z else y) else x := by
  subst h
  cases ae
  · rfl
  cases se
  · rfl
  cases ce
  · rfl
  cases bd
  · rfl
  cases ks
  · rfl
  cases kq <;> rfl

theorem exits_data {α : Type} (ae se ce ke ds de dk kq : Bool) (x y z : α) (h : dk = false) :
    (if (!ae || !se || !ce) = true then x else if (!ke || ds && !de) = true then x else y) =
      if (ae && (se && ce && (ke && (!ds || de)))) = true then (if (dk && kq) = true then z else y) else x := by
  subst h
  cases ae
  · rfl
  cases se
  · rfl
  cases ce
  · rfl
  cases ke
  · rfl
  cases ds
  · rfl
  cases de <;> rfl

/-- `IsPrefix` at two records, the first not a leaf record: node compatibility (`preC`), then on with the
children, the other's array re-ordered first when the key orders differ -/
theorem isPrefixGo_node (strict : Bool) (a b : Node) (as brest : List Node) (m : Bool) (ha : a.kind ≠ .leaf) :
    isPrefixGo strict (a :: as) (b :: brest) m =
      if a.arity == b.arity && a.info.preC b.info then
        if a.kind.isDict && a.keys != b.keys then
          match cutSegments b.arity brest with
          | .error e => .error e
          | .ok (segs, tail) =>
              if (segs.map List.length).sum + 1 != b.numNodes then .error .internal
              else match reorderSegments a.keys b.keys segs with
                | .error e => .error e
                | .ok segs' => prefixCont strict a b as m (segs'.flatten ++ tail)
        else prefixCont strict a b as m brest
      else .ok false := by
  rw [isPrefixGo, if_neg (by simpa using ha), NInfo.preC, Node.info_kind]
  -- per kind, the row of exits on the left is the one test on the right
  cases hk : a.kind with
  | leaf => exact absurd hk ha
  | none | tuple | list | deque => exact exits_seq _ _ _ _ _ _ _ _ _ rfl
  | dict | ordereddict | defaultdict => exact exits_dict _ _ _ _ _ _ _ _ _ _ rfl
  | namedtuple | structseq | custom => exact exits_data _ _ _ _ _ _ _ _ _ _ _ rfl

mutual
theorem isPrefixGo_enc (strict : Bool) : ∀ a : STree, a.wf = true → ∀ b : STree, b.wf = true →
    ∀ (as bs : List Node) (m : Bool),
      isPrefixGo strict (a.renc ++ as) (b.renc ++ bs) m =
        if a.prefixB b then isPrefixGo strict as bs (m && a.sameB b) else .ok false
  | .leaf, _, b, hb, as, bs, m => by
      rw [STree.renc_leaf, List.singleton_append, STree.renc_cons, isPrefixGo_leaf, ← STree.renc_cons,
        STree.root_numNodes, STree.renc_guard, STree.renc_append_drop, STree.prefixB, STree.sameB_leaf b hb]
      rfl
  | .node i cs, ha, .leaf, _, as, bs, m => by
      rw [STree.renc_node, STree.renc_leaf, List.cons_append, List.singleton_append,
        isPrefixGo_node _ _ _ _ _ _ (STree.wf_node ha).1,
        Bool.eq_false_iff.mpr fun h => NInfo.preC_ne_leaf h rfl]
      simp [STree.prefixB]
  | .node i cs, ha, .node j ds, hb, as, bs, m => by
      obtain ⟨hnl, li, ni, wa⟩ := STree.wf_nodeK ha
      obtain ⟨-, lj, nj, wb⟩ := STree.wf_nodeK hb
      rw [STree.renc_node, STree.renc_node, List.cons_append, List.cons_append,
        isPrefixGo_node _ _ _ _ _ _ hnl, STree.prefixB_nf i j cs ds li lj]
      rw [NInfo.toNode_info, NInfo.toNode_info, NInfo.toNode_arity, NInfo.toNode_arity, NInfo.toNode_kind,
        NInfo.toNode_keys, NInfo.toNode_keys]
      cases hlen : cs.length == ds.length
      · rfl
      cases p : i.preC j
      · rfl
      rw [Bool.true_and, Bool.true_and, if_pos rfl, STree.sameB_nf i j cs ds li lj p]
      have hd := NInfo.preC_isDict p
      -- after the records: the children, the other's in any order (`prefixCont`, unfolded)
      have hcont : ∀ X : List STree, X.Perm ds →
          (if STree.sizeL cs + 1 > STree.sizeL ds + 1 then .ok false
            else isPrefixGo strict (STree.rencL cs ++ as) (STree.rencL X ++ bs) m) =
          if STree.prefixL cs X then isPrefixGo strict as bs (m && STree.sameL cs X) else .ok false := by
        intro X hX
        have hw := STree.wfL_subset hX.subset wb
        rw [isPrefixGo_encL strict cs wa X hw (hX.length_eq ▸ eq_of_beq hlen) as bs m]
        cases hp : STree.prefixL cs X
        · exact ite_self _
        · have := STree.prefixL_size cs wa X hw hp
          rw [STree.sizeL_perm hX] at this
          exact if_neg (Nat.not_lt.mpr (Nat.succ_le_succ this))
      by_cases hre : (i.kind.isDict && i.keys != j.keys) = true
      · -- the key orders differ: cut the other's children into segments and re-order them
        obtain ⟨hid, -⟩ := Bool.and_eq_true_iff.mp hre
        have hjd := hd.trans hid
        have hks := NInfo.preC_keys p hid
        rw [if_pos hre, STree.rencL_eq_flatten ds, ← List.length_reverse (as := ds), cutSegments_flatten]
        simp only [← List.length_flatten, ← STree.rencL_eq_flatten, STree.rencL_length, NInfo.toNode_numNodes,
          bne_self_eq_false, Bool.false_eq_true, if_false, reorderSegments_renc i.keys j.keys ds (lj hjd) (keySetEq_mem hks)]
        rw [alignC_dict ds hid]
        exact hcont _ (pickD_perm hks (ni hid) (nj hjd) (lj hjd))
      · rw [if_neg hre, alignC_of_keys_eq (fun hid => by simpa [hid] using hre) (fun hid => lj (hd.trans hid))
          (fun hid => nj (hd.trans hid))]
        exact hcont _ (List.Perm.refl _)
theorem isPrefixGo_encL (strict : Bool) : ∀ cs : List STree, STree.wfL cs = true →
    ∀ ds : List STree, STree.wfL ds = true → cs.length = ds.length →
    ∀ (as bs : List Node) (m : Bool),
      isPrefixGo strict (STree.rencL cs ++ as) (STree.rencL ds ++ bs) m =
        if STree.prefixL cs ds then isPrefixGo strict as bs (m && STree.sameL cs ds) else .ok false
  | [], _, ds, _, h, as, bs, m => by
      obtain rfl := List.length_eq_zero_iff.mp h.symm
      rw [STree.rencL_nil, List.nil_append, List.nil_append]
      exact congrArg (isPrefixGo strict as bs) (Bool.and_true m).symm
  | c :: cs, hc, ds, hd, h, as, bs, m => by
      obtain ⟨d, ds, rfl⟩ := List.exists_cons_of_length_eq_add_one h.symm
      rw [STree.wfL_cons] at hc hd
      rw [STree.rencL_cons, STree.rencL_cons, List.append_assoc, List.append_assoc,
        isPrefixGo_encL strict cs hc.2 ds hd.2 (Nat.succ.inj h), STree.prefixL, STree.sameL]
      cases STree.prefixL cs ds
      · rw [Bool.and_false]; rfl
      rw [isPrefixGo_enc strict c hc.1 d hd.1, Bool.and_assoc, Bool.and_comm (STree.sameL cs ds)]
      cases c.prefixB d <;> rfl
end

end Optree
