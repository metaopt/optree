/-
  The documented leaf order as a reference function `leavesOf`; `flattenGo` returns exactly these leaves (for C02).
  `LeafHom`: what a function on leaf lists must satisfy to carry the leaves under one configuration to the
  leaves under another (for `C02_none_filter`, `C02_pred_refines`).
-/
import OptreeModel.Lemmas.FlattenView

namespace Optree

/-- the predicate says "leaf" (absent predicate: never) -/
def Cfg.predTrue (cfg : Cfg) (x : PyObj) : Bool :=
  match cfg.evalPred x with
  | .ok true => true
  | _ => false

theorem Cfg.predTrue_of_evalPred {cfg : Cfg} {x : PyObj} {b : Bool} (h : cfg.evalPred x = .ok b) :
    cfg.predTrue x = b := by
  cases b <;> simp [Cfg.predTrue, h]

theorem predTrue_none (cfg : Cfg) (hp : cfg.pred = Option.none) (x : PyObj) : cfg.predTrue x = false :=
  Cfg.predTrue_of_evalPred (evalPred_none cfg hp x)

theorem predTrue_nil (cfg : Cfg) (b : Bool) (x : PyObj) :
    ({ cfg with noneIsLeaf := b } : Cfg).predTrue x = cfg.predTrue x := rfl

theorem beq_none_iff (x : PyObj) : (x == PyObj.none) = true ↔ x = .none := by
  cases x <;> simp [BEq.beq, PyObj.beq]

mutual
/-- **Reference leaf order** (README): depth-first, left to right; sequences by position;
OrderedDict by insertion order; dict / defaultdict by `totalOrderSort` of the keys unless the
namespace is insertion-ordered (`sorted = false`); custom nodes in the order their flatten function
yields children; an object is a leaf if the predicate says so, or if it is not a registered /
built-in node; `None` is a childless node unless `none_is_leaf`. -/
def leavesOf (cfg : Cfg) (sorted : Bool) : PyObj → List PyObj
  | x@(.leaf _ _) => [x]
  | .none => if cfg.predTrue .none || cfg.noneIsLeaf then [.none] else []
  | x@(.tuple xs) => if cfg.predTrue x then [x] else leavesOfList cfg sorted xs
  | x@(.list xs) => if cfg.predTrue x then [x] else leavesOfList cfg sorted xs
  | x@(.deque _ xs) => if cfg.predTrue x then [x] else leavesOfList cfg sorted xs
  | x@(.dict kvs) =>
      if cfg.predTrue x then [x]
      else ((dictOrder false sorted (leavesOfKVs cfg sorted kvs)).map (·.2)).flatten
  | x@(.odict kvs) =>
      if cfg.predTrue x then [x] else ((leavesOfKVs cfg sorted kvs).map (·.2)).flatten
  | x@(.ddict _ kvs) =>
      if cfg.predTrue x then [x]
      else ((dictOrder false sorted (leavesOfKVs cfg sorted kvs)).map (·.2)).flatten
  | x@(.ntuple _ xs) => if cfg.predTrue x then [x] else leavesOfList cfg sorted xs
  | x@(.sseq _ xs) => if cfg.predTrue x then [x] else leavesOfList cfg sorted xs
  | x@(.user cls _ _ xs) =>
      if cfg.predTrue x then [x]
      else match cfg.reg.lookup cfg.ns 0 cls with
        | some _ => leavesOfList cfg sorted xs
        | Option.none => [x]
def leavesOfList (cfg : Cfg) (sorted : Bool) : List PyObj → List PyObj
  | [] => []
  | x :: xs => leavesOf cfg sorted x ++ leavesOfList cfg sorted xs
def leavesOfKVs (cfg : Cfg) (sorted : Bool) : List (Key × PyObj) → List (Key × List PyObj)
  | [] => []
  | (k, x) :: xs => (k, leavesOf cfg sorted x) :: leavesOfKVs cfg sorted xs
end

theorem leavesOfList_eq (cfg : Cfg) (s : Bool) (xs : List PyObj) :
    leavesOfList cfg s xs = (xs.map (leavesOf cfg s)).flatten := by
  induction xs with
  | nil => simp [leavesOfList]
  | cons x xs ih => simp [leavesOfList, ih]

theorem leavesOfKVs_eq (cfg : Cfg) (s : Bool) (kvs : List (Key × PyObj)) :
    leavesOfKVs cfg s kvs = kvs.map (fun p => (p.1, leavesOf cfg s p.2)) := by
  induction kvs with
  | nil => simp [leavesOfKVs]
  | cons p kvs ih =>
    obtain ⟨k, x⟩ := p
    simp [leavesOfKVs, ih]

theorem leavesOf_view (cfg : Cfg) (s : Bool) (x : PyObj) :
    leavesOf cfg s x =
      if cfg.predTrue x then [x]
      else match x.view cfg s with
      | .leaf => [x]
      | .node _ _ _ cs => cs.flatMap (leavesOf cfg s)
      | .custom _ _ _ cs => cs.flatMap (leavesOf cfg s) := by
  cases x <;>
    simp only [leavesOf, PyObj.view, leavesOfList_eq, leavesOfKVs_eq, dictOrder_mapVals, List.map_map,
      Function.comp_def, List.flatMap_def, ite_self]
  case none => cases cfg.noneIsLeaf <;> cases cfg.predTrue .none <;> rfl
  case ntuple cls xs => cases cfg.reg.lookup cfg.ns 1 cls <;> rfl
  case sseq cls xs => cases cfg.reg.lookup cfg.ns 2 cls <;> rfl
  case user cls md q xs => cases cfg.reg.lookup cfg.ns 0 cls <;> rfl

theorem leavesOf_of_predTrue (cfg : Cfg) (s : Bool) (x : PyObj) (h : cfg.predTrue x = true) :
    leavesOf cfg s x = [x] := by
  rw [leavesOf_view, if_pos h]

theorem seqOuts_leaves {f : PyObj → Except Err FlatOut} {g : PyObj → List PyObj} {cs : List PyObj}
    {b : FlatOut} (ih : ∀ c ∈ cs, ∀ o, f c = .ok o → o.leaves = g c)
    (hb : seqOuts (cs.map f) = .ok b) : b.leaves = cs.flatMap g :=
  seqOuts_induct (Q := fun cs b => b.leaves = cs.flatMap g) rfl
    (fun _ _ _ _ h1 h2 => by simp [FlatOut.append, h1, h2]) ih hb

/-- `flatten` returns the leaves in the documented order: a successful `flattenGo` of any tree, at any depth,
in either dict order and under any predicate, returns exactly `leavesOf`. -/
theorem lobj (cfg : Cfg) (s : Bool) (t : PyObj) :
    ∀ d out, flattenGo cfg s d t = .ok out → out.leaves = leavesOf cfg s t := by
  induction t using PyObj.view_induct cfg s with | _ t ih
  intro d out h
  rw [leavesOf_view]
  obtain ⟨-, ⟨hp, rfl⟩ | ⟨hp, h⟩⟩ := flattenGo_ok h
  · rw [Cfg.predTrue_of_evalPred hp]; rfl
  rw [Cfg.predTrue_of_evalPred hp, if_neg Bool.false_ne_true]
  cases hv : t.view cfg s <;> simp only [hv, View.kids] at h ih ⊢
  · cases h; rfl
  · obtain ⟨b, hb, rfl⟩ := closeSeq_ok h
    -- `(… :)`: elaborated on its own; against the goal, `b` would be unified with `b.close …`
    exact (seqOuts_leaves (fun c hc => ih c hc (d + 1)) hb :)
  · obtain ⟨b, _, hb, rfl⟩ := customFlatten_ok h
    exact (seqOuts_leaves (fun c hc => ih c hc (d + 1)) hb :)

/-- the statement of `lobj`, for `lkvs` -/
def Lobj (cfg : Cfg) (s : Bool) (t : PyObj) : Prop :=
  ∀ d out, flattenGo cfg s d t = .ok out → out.leaves = leavesOf cfg s t

theorem lkvs (cfg : Cfg) (s : Bool) : ∀ kvs : List (Key × PyObj), ∀ p ∈ kvs, Lobj cfg s p.2 :=
  fun _ p _ => lobj cfg s p.2

/-- `F` maps the leaf list under `cfg1` to the one under `cfg2` whenever it is a homomorphism of lists (`nil`, `add`)
and does so on the one-element lists of what `cfg1` stops at: objects its predicate accepts (`predT`), opaque leaves,
instances of unregistered classes, `None`.  The configurations share registry and namespace, and `cfg2`'s predicate
accepts nothing that `cfg1`'s refuses (`predF`).  `C02_none_filter` and `C02_pred_refines` are its two instances. -/
structure LeafHom (F : List PyObj → List PyObj) (cfg1 cfg2 : Cfg) (s : Bool) : Prop where
  nil : F [] = []
  add : ∀ a b, F (a ++ b) = F a ++ F b
  reg : cfg1.reg = cfg2.reg
  ns : cfg1.ns = cfg2.ns
  predT : ∀ x, cfg1.predTrue x = true → F [x] = leavesOf cfg2 s x
  predF : ∀ x, cfg1.predTrue x = false → cfg2.predTrue x = false
  leafObj : ∀ ty uid, cfg1.predTrue (.leaf ty uid) = false → F [.leaf ty uid] = [.leaf ty uid]
  userObj : ∀ c m q xs, cfg1.predTrue (.user c m q xs) = false →
    cfg2.reg.lookup cfg2.ns 0 c = Option.none → F [.user c m q xs] = [.user c m q xs]
  noneObj : cfg1.predTrue .none = false →
    F (if cfg1.noneIsLeaf then [PyObj.none] else []) = (if cfg2.noneIsLeaf then [PyObj.none] else [])

theorem LeafHom.flatten {F : List PyObj → List PyObj} {cfg1 cfg2 : Cfg} {s : Bool}
    (H : LeafHom F cfg1 cfg2 s) (ls : List (List PyObj)) : F ls.flatten = (ls.map F).flatten := by
  induction ls with
  | nil => simp [H.nil]
  | cons l ls ih => simp [H.add, ih]

theorem LeafHom.flatMap {F : List PyObj → List PyObj} {cfg1 cfg2 : Cfg} {s : Bool}
    (H : LeafHom F cfg1 cfg2 s) {cs : List PyObj} (ih : ∀ c ∈ cs, F (leavesOf cfg1 s c) = leavesOf cfg2 s c) :
    F (cs.flatMap (leavesOf cfg1 s)) = cs.flatMap (leavesOf cfg2 s) := by
  rw [List.flatMap_def, H.flatten, List.map_map, List.flatMap_def]
  exact congrArg _ (List.map_congr_left ih)

/-- A `LeafHom` from one configuration to another carries the reference leaves of every tree under the first to
its reference leaves under the second (dropping the `None`s: from `none_is_leaf=True` to `False`; flattening each
leaf again: from a predicate to none). -/
theorem hobj {F : List PyObj → List PyObj} {cfg1 cfg2 : Cfg} {s : Bool}
    (H : LeafHom F cfg1 cfg2 s) (t : PyObj) : F (leavesOf cfg1 s t) = leavesOf cfg2 s t := by
  induction t using PyObj.view_induct cfg1 s with | _ t ih
  cases hp : cfg1.predTrue t
  case true => rw [leavesOf_of_predTrue cfg1 s t hp]; exact H.predT t hp
  rw [leavesOf_view cfg1, leavesOf_view cfg2, hp, H.predF t hp]
  -- the two views differ in `none_is_leaf` only
  cases t <;> simp only [PyObj.view, ← H.reg, ← H.ns, Bool.false_eq_true, if_false] at ih ⊢
  case leaf ty uid => exact H.leafObj ty uid hp
  case none =>
    have := H.noneObj hp
    cases h1 : cfg1.noneIsLeaf <;> cases h2 : cfg2.noneIsLeaf <;> simpa [h1, h2] using this
  case user cls md q xs =>
    cases hl : cfg1.reg.lookup cfg1.ns 0 cls with
    | none => exact H.userObj cls md q xs hp (by rw [← H.reg, ← H.ns]; exact hl)
    | some reg => rw [hl] at ih; exact H.flatMap ih
  case ntuple cls xs => cases hl : cfg1.reg.lookup cfg1.ns 1 cls <;> rw [hl] at ih <;> exact H.flatMap ih
  case sseq cls xs => cases hl : cfg1.reg.lookup cfg1.ns 2 cls <;> rw [hl] at ih <;> exact H.flatMap ih
  all_goals exact H.flatMap ih

/-- the statement of `hobj`, for `hlist` / `hkvs` -/
def Hobj (F : List PyObj → List PyObj) (cfg1 cfg2 : Cfg) (s : Bool) (t : PyObj) : Prop :=
  F (leavesOf cfg1 s t) = leavesOf cfg2 s t

theorem hlist {F : List PyObj → List PyObj} {cfg1 cfg2 : Cfg} {s : Bool}
    (H : LeafHom F cfg1 cfg2 s) : ∀ xs : List PyObj, ∀ x ∈ xs, Hobj F cfg1 cfg2 s x :=
  fun _ x _ => hobj H x

theorem hkvs {F : List PyObj → List PyObj} {cfg1 cfg2 : Cfg} {s : Bool}
    (H : LeafHom F cfg1 cfg2 s) : ∀ kvs : List (Key × PyObj), ∀ p ∈ kvs, Hobj F cfg1 cfg2 s p.2 :=
  fun _ p _ => hobj H p.2

end Optree
