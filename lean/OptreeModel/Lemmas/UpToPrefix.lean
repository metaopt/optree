/-
  The two prefix tests agree: matching a tree against a shape (`flatten_up_to`) succeeds exactly
  when the shape is a prefix (`is_prefix`) of the tree's own shape (`tree_structure`) — for C07.

  The argument is made at one level: a record accepts an object exactly when it is compatible
  (`NInfo.preC`) with the record `flatten` writes for that object (`View.info`), and the children handed
  back are the ones `flatten` visits, re-paired by key for the dict kinds (`Matches.view`,
  `Matches.of_preC`, `matchNode_self`).  The induction over the shape then has a leaf and a node case.
  It needs of the shape that payloads fit their kinds and that namedtuple / struct-sequence nodes name
  unregistered classes (`STree.good`), which holds of every shape `flatten` makes (`wg`).
-/
import OptreeModel.Lemmas.EncUpTo
import OptreeModel.Lemmas.ShapeOf
import OptreeModel.Lemmas.PrefixOrder

namespace Optree

/-- a namedtuple / struct-sequence node names a class that is not registered as a custom node in
the namespace the tree will be matched in (otherwise `flatten` would have made a custom node) -/
def NInfo.regFree (reg : Registry) (ns : String) (i : NInfo) : Bool :=
  match i.kind, i.data with
  | .namedtuple, .cls c => (reg.lookup ns 1 c).isNone
  | .structseq, .cls c => (reg.lookup ns 2 c).isNone
  | _, _ => true

theorem NInfo.regFree_namedtuple {reg : Registry} {ns : String} {i : NInfo} {c : TypeId}
    (h : i.regFree reg ns = true) (hk : i.kind = .namedtuple) (hd : i.data = .cls c) :
    reg.lookup ns 1 c = Option.none := by
  simpa [NInfo.regFree, hk, hd] using h

theorem NInfo.regFree_structseq {reg : Registry} {ns : String} {i : NInfo} {c : TypeId}
    (h : i.regFree reg ns = true) (hk : i.kind = .structseq) (hd : i.data = .cls c) :
    reg.lookup ns 2 c = Option.none := by
  simpa [NInfo.regFree, hk, hd] using h

mutual
/-- at every node the payload fits the kind (`fits`) and a namedtuple / struct-sequence record names a class that is
not registered in `ns` (`regFree`: else `flatten` would have written a custom record); true of every shape `flatten`
makes (`wg`) -/
def STree.good (reg : Registry) (ns : String) : STree → Bool
  | .leaf => true
  | .node i cs => i.fits && i.regFree reg ns && STree.goodL reg ns cs
def STree.goodL (reg : Registry) (ns : String) : List STree → Bool
  | [] => true
  | c :: cs => STree.good reg ns c && STree.goodL reg ns cs
end

theorem lookupChild_map {α : Type} (f : α → STree) (k : Key) (items : List (Key × α)) :
    lookupChild k (items.map (·.1)) ((items.map (·.2)).map f) = (lookupKey k items).map f := by
  induction items with
  | nil => rfl
  | cons p l ih =>
    obtain ⟨k', v⟩ := p
    simp only [List.map_cons, lookupChild, lookupKey]
    split
    · rfl
    · exact ih

/-! `shapeOf t` is a leaf, or a node whose record depends on one level of `t` only (`View.info`) over the shapes
of the children `flatten` visits.  What holds of every node of `shapeOf t` is therefore a fact about
`View.info` plus `shapeOf_induct`. -/

theorem view_info_wf (cfg : Cfg) (s : Bool) {t : PyObj} (h : t.wf = true) {i : NInfo}
    (hi : (t.view cfg s).info = some i) :
    i.kind ≠ .leaf ∧ (i.kind = .none → (t.view cfg s).kids.length = 0) ∧
      (i.kind.isDict = true → i.keys.length = (t.view cfg s).kids.length ∧ i.keys.Nodup) := by
  have hw := PyObj.wf_view_node cfg s t h
  cases hv : t.view cfg s <;>
    simp only [hv, View.info, View.kids, reduceCtorEq, Option.some.injEq] at hw hi ⊢ <;> subst hi
  · exact hw
  · simp [customInfo, Kind.isDict]

theorem view_info_fits (cfg : Cfg) (s : Bool) {t : PyObj} {i : NInfo} (hi : (t.view cfg s).info = some i) :
    i.fits = true ∧ i.regFree cfg.reg cfg.ns = true := by
  -- `fits` is by computation; for `regFree`, `split` leaves the failed lookup of the namedtuple / struct-sequence
  -- class in the context, and `simp [*]` uses it
  cases t <;> simp only [PyObj.view] at hi <;> (try split at hi) <;> cases hi <;>
    simp [plainInfo, customInfo, NInfo.fits, NInfo.regFree, *]

theorem lookupForObject_view (cfg : Cfg) (s : Bool) (t : PyObj) :
    lookupForObject cfg.reg cfg.ns t =
      match t.view cfg s with
      | .custom reg _ _ _ => some reg
      | _ => Option.none := by
  cases t
  case none => rw [PyObj.view]; cases cfg.noneIsLeaf <;> rfl
  case ntuple cls xs => rw [lookupForObject, PyObj.view]; cases cfg.reg.lookup cfg.ns 1 cls <;> rfl
  case sseq cls xs => rw [lookupForObject, PyObj.view]; cases cfg.reg.lookup cfg.ns 2 cls <;> rfl
  case user cls md q xs => rw [lookupForObject, PyObj.view]; cases cfg.reg.lookup cfg.ns 0 cls <;> rfl
  all_goals rfl

theorem PyObj.wf_dictItems {t : PyObj} {kvs : List (Key × PyObj)} (h : t.wf = true) (hd : dictItems? t = some kvs) :
    (kvs.map (·.1)).Nodup ∧ PyObj.wfKVs kvs = true := by
  cases t <;> cases hd <;> simpa [PyObj.wf] using h

theorem view_of_dictItems (cfg : Cfg) (s : Bool) {t : PyObj} {kvs : List (Key × PyObj)} (h : dictItems? t = some kvs) :
    ∃ (items : List (Key × PyObj)) (j : NInfo), items.Perm kvs ∧ j.kind.isDict = true ∧ j.keys = items.map (·.1) ∧
      (t.view cfg s).info = some j ∧ (t.view cfg s).kids = items.map (·.2) := by
  cases t <;> cases h
  · exact ⟨_, _, dictOrder_perm false s kvs, rfl, rfl, rfl, rfl⟩
  · exact ⟨_, _, .refl kvs, rfl, rfl, rfl, rfl⟩
  · exact ⟨_, _, dictOrder_perm false s kvs, rfl, rfl, rfl, rfl⟩

theorem Matches.dict_self (reg : Registry) (nil : Bool) (ns : String) {i : NInfo} (n : Nat) {t : PyObj}
    {kvs items : List (Key × PyObj)} (hp : items.Perm kvs) (hk : i.kind.isDict = true)
    (hd : dictItems? t = some kvs) (hkeys : i.keys = items.map (·.1)) (hnd : (kvs.map (·.1)).Nodup) :
    Matches reg nil ns i n t (items.map (·.2)) :=
  .dict t kvs _ hk hd (hkeys ▸ keySetEq_of_perm (hp.map (·.1))) (hkeys ▸ mapM_lookup_items kvs _ hp hnd)

theorem matchNode_self (cfg : Cfg) (s : Bool) {t : PyObj} (h : t.wf = true) {i : NInfo}
    (hi : (t.view cfg s).info = some i) :
    matchNode cfg.reg cfg.noneIsLeaf cfg.ns i (t.view cfg s).kids.length t = .ok (t.view cfg s).kids := by
  rw [matchNode_eq_ok]
  cases hv : t.view cfg s <;> simp only [hv, View.info, View.kids, reduceCtorEq, Option.some.injEq] at hi ⊢ <;>
    subst hi
  case custom reg md q cs =>
    have hco := customOut_view hv reg
    cases PyObj.wf_quirk h hv
    refine .custom t reg cs rfl rfl (by rw [lookupForObject_view cfg s, hv]) ?_ ?_ ?_ rfl <;> rw [hco] <;>
      simp only [customOutOf]
    · cases reg.mode <;> simp
    · rfl
  case node k data ok cs =>
    cases t <;> simp only [PyObj.view] at hv
    case leaf => cases hv
    case none => split at hv <;> cases hv; exact .none rfl (Bool.eq_false_iff.mpr ‹_›)
    case tuple => cases hv; exact .tuple _ rfl rfl
    case list => cases hv; exact .list _ rfl rfl
    case deque => cases hv; exact .deque _ _ rfl rfl
    case dict kvs | ddict _ kvs =>
      cases hv; exact .dict_self _ _ _ _ (dictOrder_perm false s kvs) rfl rfl rfl (PyObj.wf_dictItems h rfl).1
    case odict kvs => cases hv; exact .dict_self _ _ _ _ (.refl kvs) rfl rfl rfl (PyObj.wf_dictItems h rfl).1
    case ntuple => split at hv <;> cases hv; exact .ntuple _ _ rfl rfl rfl
    case sseq => split at hv <;> cases hv; exact .sseq _ _ rfl rfl rfl
    case user => split at hv <;> cases hv

theorem STree.goodL_iff (reg : Registry) (ns : String) (cs : List STree) :
    STree.goodL reg ns cs = true ↔ ∀ c ∈ cs, c.good reg ns = true :=
  all_rec_iff rfl (fun _ _ => rfl) cs

def WG (cfg : Cfg) (s : Bool) (t : PyObj) : Prop :=
  (shapeOf cfg s t).wf = true ∧ (shapeOf cfg s t).good cfg.reg cfg.ns = true

/-- The shape of a well-formed tree is well-formed (`STree.wf`: no leaf record at a node, `None` childless, one
distinct key per child of a dict kind), its payloads fit their kinds, and its namedtuple / struct-sequence nodes
name classes that are not registered (`STree.good`): what `flattenUpTo_enc` and `upTo_iff_prefix` ask of a shape
holds of every treespec `flatten` makes under `cfg`. -/
theorem wg (cfg : Cfg) (s : Bool) : ∀ t : PyObj, t.wf = true → WG cfg s t := by
  refine shapeOf_induct cfg s (Q := fun _ a => a.wf = true ∧ a.good cfg.reg cfg.ns = true)
    (fun _ _ => ⟨rfl, rfl⟩) ?_
  intro t hwf i hi ih
  obtain ⟨h1, h2, h3⟩ := view_info_wf cfg s hwf hi
  obtain ⟨h4, h5⟩ := view_info_fits cfg s hi
  have hw := (STree.wfL_iff _).mpr (List.forall_mem_map.mpr fun c hc => (ih c hc).1)
  have hg := (STree.goodL_iff cfg.reg cfg.ns _).mpr (List.forall_mem_map.mpr fun c hc => (ih c hc).2)
  exact ⟨(STree.wf_node_iff _ _).mpr ⟨h1, fun hk => by simpa using h2 hk, by simpa using h3, hw⟩,
    by simp [STree.good, h4, h5, hg]⟩

theorem wgKVs (cfg : Cfg) (s : Bool) : ∀ kvs : List (Key × PyObj), PyObj.wfKVs kvs = true →
    ∀ p ∈ kvs, WG cfg s p.2 :=
  fun _ h p hp => wg cfg s p.2 (PyObj.wfKVs_mem h p hp)

theorem STree.good_node {reg : Registry} {ns : String} {i : NInfo} {cs : List STree}
    (h : (STree.node i cs).good reg ns = true) :
    i.fits = true ∧ i.regFree reg ns = true ∧ STree.goodL reg ns cs = true := by
  simp only [STree.good, Bool.and_eq_true] at h
  exact ⟨h.1.1, h.1.2, h.2⟩

theorem dict_pick (cfg : Cfg) (s : Bool) {ks : List Key} {kvs items : List (Key × PyObj)} {xs : List PyObj}
    (hp : items.Perm kvs) (hnd : (kvs.map (·.1)).Nodup) (hwk : PyObj.wfKVs kvs = true)
    (hm : ks.mapM (fun k => lookupKey k kvs) = some xs) :
    PyObj.wfList xs = true ∧
      shapeOfList cfg s xs = pickD ks (items.map (·.1)) ((items.map (·.2)).map (shapeOf cfg s)) := by
  rw [← mapM_filterMap hm]
  constructor
  · rw [PyObj.wfList_iff]
    intro x hx
    obtain ⟨k, -, hk⟩ := List.mem_filterMap.mp hx
    exact PyObj.wfKVs_mem hwk _ (lookupKey_mem hk)
  · rw [pickD, shapeOfList_eq, List.map_filterMap]
    exact filterMap_congr fun k _ => by rw [lookupChild_map, lookupKey_perm k hp ((hp.map (·.1)).nodup_iff.mpr hnd)]

/-- one level, matcher ⇒ prefix relation -/
theorem Matches.view (cfg : Cfg) (s : Bool) {i : NInfo} {n : Nat} {t : PyObj} {xs : List PyObj}
    (h : Matches cfg.reg cfg.noneIsLeaf cfg.ns i n t xs) (ht : t.wf = true) (hfit : i.fits = true)
    (hrf : i.regFree cfg.reg cfg.ns = true) (hnone : i.kind = .none → n = 0)
    (hkl : i.kind.isDict = true → i.keys.length = n) :
    ∃ j, (t.view cfg s).info = some j ∧ n = (t.view cfg s).kids.length ∧ i.preC j = true ∧
      PyObj.wfList xs = true ∧ shapeOfList cfg s xs = alignC i j ((t.view cfg s).kids.map (shapeOf cfg s)) := by
  -- every kind but the dict kinds: the children handed back are the view's own, and `alignC` leaves them in place
  have seq : ∀ j, (t.view cfg s).info = some j → (t.view cfg s).kids = xs → xs.length = n → i.kind = j.kind →
      j.kind.isDict = false → (j.kind.cmpData = true → i.data = j.data) →
      (j.kind = .custom → i.custom = j.custom) →
      ∃ j, (t.view cfg s).info = some j ∧ n = (t.view cfg s).kids.length ∧ i.preC j = true ∧
        PyObj.wfList xs = true ∧ shapeOfList cfg s xs = alignC i j ((t.view cfg s).kids.map (shapeOf cfg s)) := by
    intro j hj hkids hl hk hd hdata hc
    rw [← hk] at hd hdata hc
    refine ⟨j, hj, by rw [hkids, hl], NInfo.preC_of_fits hfit (view_info_fits cfg s hj).1 hk hd hdata hc, ?_, ?_⟩
    · rw [← hkids]; exact (PyObj.wfList_iff _).mpr (PyObj.wf_kids cfg s ht)
    · rw [alignC_seq _ hd, hkids, shapeOfList_eq]
  cases h
  case none hk hn =>
    exact seq (plainInfo .none .none Option.none) (by simp [PyObj.view, hn, View.info])
      (by simp [PyObj.view, hn, View.kids]) (hnone hk).symm hk rfl nofun nofun
  case tuple hk hl | list hk hl | deque hk hl => exact seq _ rfl rfl hl hk rfl nofun nofun
  case ntuple c hk hd hl =>
    have hlk := NInfo.regFree_namedtuple hrf hk hd
    exact seq (plainInfo .namedtuple (.cls c) Option.none) (by simp [PyObj.view, hlk, View.info])
      (by simp [PyObj.view, hlk, View.kids]) hl hk rfl (fun _ => hd) nofun
  case sseq c hk hd hl =>
    have hlk := NInfo.regFree_structseq hrf hk hd
    exact seq (plainInfo .structseq (.cls c) Option.none) (by simp [PyObj.view, hlk, View.info])
      (by simp [PyObj.view, hlk, View.kids]) hl hk rfl (fun _ => hd) nofun
  case custom nreg hk hc hlo hno hd hl hch =>
    rw [lookupForObject_view cfg s] at hlo
    split at hlo <;> cases hlo
    rename_i md q cs hv
    obtain rfl := PyObj.wf_quirk ht hv
    rw [customOut_view hv] at hd hch
    obtain rfl : cs = xs := by simpa [customOutOf] using hch
    exact seq (customInfo nreg md cs.length) (by rw [hv]; rfl) (by rw [hv]; rfl) hl hk rfl
      (fun _ => hd.trans (by rw [customOutOf_md]; rfl)) (fun _ => hc)
  case dict kvs hd hks hdi hm =>
    obtain ⟨items, j, hp, hj, hkeys, hinfo, hkids⟩ := view_of_dictItems cfg s hdi
    obtain ⟨hnd, hwk⟩ := PyObj.wf_dictItems ht hdi
    obtain ⟨h1, h2⟩ := dict_pick cfg s hp hnd hwk hm
    refine ⟨j, hinfo, ?_, NInfo.preC_of_fits_dict hfit (view_info_fits cfg s hinfo).1 hd hj ?_, h1, ?_⟩
    · rw [hkids, List.length_map, hp.length_eq, ← hkl hd, keySetEq_length hks, List.length_map]
    · rw [hkeys]; exact keySetEq_trans hks (keySetEq_of_perm (hp.map (·.1)).symm)
    · rw [alignC_dict _ hd, hkeys, hkids]; exact h2

/-- one level, prefix relation ⇒ matcher: compatible records ask the same of an object -/
theorem Matches.of_preC {reg : Registry} {nil : Bool} {ns : String} {i j : NInfo} {n : Nat} {t : PyObj}
    {ds : List PyObj} (self : Matches reg nil ns j n t ds) (hp : i.preC j = true) (hfit : i.fits = true) :
    ∃ xs, Matches reg nil ns i n t xs := by
  have hdj := NInfo.preC_isDict hp
  obtain ⟨-, hcus, -, -⟩ := (NInfo.preC_iff i j).mp hp
  have nd : ∀ {K : Kind}, j.kind = K → K.isDict = false → i.kind = K ∧ (K.cmpData = true → i.data = j.data) := by
    rintro K rfl hK
    obtain ⟨hk, hdat⟩ := NInfo.preC_nondict hfit hp (hdj.symm.trans hK)
    exact ⟨hk, fun hc => hdat (hk ▸ hc)⟩
  cases self
  case none h1 h2 => exact ⟨_, .none (nd h1 rfl).1 h2⟩
  case tuple h1 h2 => exact ⟨_, .tuple _ (nd h1 rfl).1 h2⟩
  case list h1 h2 => exact ⟨_, .list _ (nd h1 rfl).1 h2⟩
  case deque h1 h2 => exact ⟨_, .deque _ _ (nd h1 rfl).1 h2⟩
  case ntuple h1 h2 h3 => exact ⟨_, .ntuple _ _ (nd h1 rfl).1 (((nd h1 rfl).2 rfl).trans h2) h3⟩
  case sseq h1 h2 h3 => exact ⟨_, .sseq _ _ (nd h1 rfl).1 (((nd h1 rfl).2 rfl).trans h2) h3⟩
  case custom nreg h1 h2 h3 h4 h5 h6 h7 =>
    exact ⟨_, .custom _ nreg _ (nd h1 rfl).1 (hcus.trans h2) h3 h4 (((nd h1 rfl).2 rfl).trans h5) h7 h6⟩
  case dict kvs hd hks hdi hm =>
    -- the same dict under a record with the same key set: every key is found again
    have hi : i.kind.isDict = true := hdj ▸ hd
    have hks' := keySetEq_trans (NInfo.preC_keys hp hi) hks
    obtain ⟨xs, hxs⟩ := mapM_lookup_of_mem i.keys kvs (keySetEq_mem hks')
    exact ⟨xs, .dict _ kvs xs hi hdi hks' hxs⟩

mutual
theorem upTo_iff_prefix (cfg : Cfg) (s : Bool) : ∀ a : STree, a.wf = true →
    a.good cfg.reg cfg.ns = true → ∀ t : PyObj, t.wf = true →
      okB (a.upTo cfg.reg cfg.noneIsLeaf cfg.ns t) = a.prefixB (shapeOf cfg s t)
  | .leaf, _, _, t, _ => by simp [STree.upTo_leaf, STree.prefixB]
  | .node i cs, ha, hg, t, ht => by
      obtain ⟨_, hnil, hdict, hw⟩ := STree.wf_node ha
      have hnone := fun h => congrArg List.length (hnil h)
      have hkl := fun h => (hdict h).1
      obtain ⟨hfit, hrf, hgl⟩ := STree.good_node hg
      have nf : ∀ j, (t.view cfg s).info = some j →
          (STree.node i cs).prefixB (.node j ((t.view cfg s).kids.map (shapeOf cfg s))) =
            (cs.length == (t.view cfg s).kids.length && i.preC j &&
              STree.prefixL cs (alignC i j ((t.view cfg s).kids.map (shapeOf cfg s)))) := fun j hj => by
        rw [STree.prefixB_nf i j cs _ hkl fun h => by
          rw [List.length_map]; exact ((view_info_wf cfg s ht hj).2.2 h).1, List.length_map]
      rw [STree.upTo_node, okB_bind, shapeOf_info]
      cases hm : matchNode cfg.reg cfg.noneIsLeaf cfg.ns i cs.length t with
      | ok xs =>
        -- accepted: compatible with the tree's own record; the rest is the children
        obtain ⟨j, hj, hn, hp, hxw, hxs⟩ := (matchNode_eq_ok.mp hm).view cfg s ht hfit hrf hnone hkl
        simp only [hj]
        rw [nf j hj, ← hn, hp, ← hxs,
          upToL_iff_prefix cfg s cs hw hgl xs hxw (matchNode_length hnone hkl hm)]
        simp
      | error e =>
        -- rejected: were the shape a prefix, the tree's own record would be compatible, and the record would accept
        simp only
        symm
        cases hj : (t.view cfg s).info with
        | none => rfl
        | some j =>
          simp only
          rw [nf j hj]
          cases hn : cs.length == (t.view cfg s).kids.length
          · rfl
          cases hp : i.preC j
          · rfl
          exfalso
          rw [beq_iff_eq] at hn
          obtain ⟨xs, hxs⟩ := (matchNode_eq_ok.mp (hn ▸ matchNode_self cfg s ht hj)).of_preC hp hfit
          rw [matchNode_eq_ok.mpr hxs] at hm
          cases hm
theorem upToL_iff_prefix (cfg : Cfg) (s : Bool) : ∀ cs : List STree, STree.wfL cs = true →
    STree.goodL cfg.reg cfg.ns cs = true → ∀ xs : List PyObj, PyObj.wfList xs = true →
    xs.length = cs.length →
      okB (STree.upToL cfg.reg cfg.noneIsLeaf cfg.ns cs xs) = STree.prefixL cs (shapeOfList cfg s xs)
  | [], _, _, xs, _, hl => by
      have : xs = [] := List.length_eq_zero_iff.mp hl
      subst this
      simp [STree.upToL, shapeOfList, STree.prefixL]
  | c :: cs, hw, hg, xs, hx, hl => by
      cases xs with
      | nil => simp at hl
      | cons x xs =>
        simp only [STree.wfL, STree.goodL, PyObj.wfList, Bool.and_eq_true] at hw hg hx
        simp only [List.length_cons, Nat.add_right_cancel_iff] at hl
        rw [STree.okB_upToL_cons, shapeOfList, STree.prefixL, upTo_iff_prefix cfg s c hw.1 hg.1 x hx.1,
          upToL_iff_prefix cfg s cs hw.2 hg.2 xs hx.2 hl]
end

/-- `flatten_up_to` with the treespec of `t` (no predicate) is the structural match against the shape of `t`, in the
namespace the treespec records -/
theorem flattenUpTo_of_flatten (cfg : Cfg) (hp : cfg.pred = Option.none) (t : PyObj) (ht : t.wf = true)
    (ls : List PyObj) (sp : Spec) (h : flatten cfg t = .ok (ls, sp)) (r : PyObj) :
    flattenUpTo cfg.reg sp r = (shapeOf cfg (!cfg.insertionOrdered) t).upTo cfg.reg cfg.noneIsLeaf sp.ns r := by
  rw [(flatten_shapeOf cfg hp t ht ls sp h).1]
  exact flattenUpTo_enc cfg.reg _ (wg cfg _ t ht).1 _ _ r

/-- with the treespec of `t`, `flatten_up_to` accepts exactly the trees whose shape the shape of `t` is a prefix of.
`hns`: the treespec records the namespace of the configuration; `flatten` records `""` instead unless it met a
registered class or the namespace is in insertion-ordered mode (`flatten_ns`), and then `flatten_up_to` would look
classes up in another namespace than `shapeOf` did. -/
theorem flattenUpTo_iff_prefix (cfg : Cfg) (hp : cfg.pred = Option.none) (t r : PyObj) (ht : t.wf = true)
    (hr : r.wf = true) (ls : List PyObj) (sp : Spec) (h : flatten cfg t = .ok (ls, sp)) (hns : sp.ns = cfg.ns) :
    okB (flattenUpTo cfg.reg sp r) =
      (shapeOf cfg (!cfg.insertionOrdered) t).prefixB (shapeOf cfg (!cfg.insertionOrdered) r) := by
  obtain ⟨w, g⟩ := wg cfg (!cfg.insertionOrdered) t ht
  rw [flattenUpTo_of_flatten cfg hp t ht ls sp h, hns]
  exact upTo_iff_prefix cfg _ _ w g r hr

end Optree
