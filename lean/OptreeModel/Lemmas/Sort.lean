/-
  `sortBy` / `totalOrderSortOn` permute their input and commute with maps that preserve the order, and they are
  canonical: with a strict total order on the elements of a list, sorting any permutation of the list gives the same
  result (for C02: the insertion order of a dict with sortable keys is irrelevant).  "Sorted" is
  `List.Pairwise (lt · · = true)`, and `allPairs p` is `List.Pairwise (p · · = true)`.
-/
import OptreeModel.Model.Sort

namespace Optree

theorem insertBy_perm {α : Type} (lt : α → α → Bool) (x : α) (xs : List α) :
    (insertBy lt x xs).Perm (x :: xs) := by
  induction xs with
  | nil => simp [insertBy]
  | cons y ys ih =>
    unfold insertBy
    split
    · exact (List.Perm.cons y ih).trans (List.Perm.swap x y ys)
    · exact List.Perm.refl _

theorem sortBy_perm {α : Type} (lt : α → α → Bool) (xs : List α) : (sortBy lt xs).Perm xs := by
  induction xs with
  | nil => simp [sortBy]
  | cons x xs ih =>
    unfold sortBy
    exact (insertBy_perm lt x _).trans (List.Perm.cons x ih)

theorem totalOrderSortOn_perm {α : Type} (f : α → Key) (xs : List α) :
    (totalOrderSortOn f xs).Perm xs := by
  unfold totalOrderSortOn
  simp only
  split
  · exact sortBy_perm _ _
  · split
    · exact sortBy_perm _ _
    · exact List.Perm.refl _

theorem insertBy_map {α β : Type} (g : α → β) (lt : α → α → Bool) (lt' : β → β → Bool)
    (h : ∀ a b, lt' (g a) (g b) = lt a b) (x : α) (xs : List α) :
    insertBy lt' (g x) (xs.map g) = (insertBy lt x xs).map g := by
  induction xs with
  | nil => simp [insertBy]
  | cons y ys ih =>
    simp only [List.map, insertBy, h]
    split <;> simp [ih]

theorem sortBy_map {α β : Type} (g : α → β) (lt : α → α → Bool) (lt' : β → β → Bool)
    (h : ∀ a b, lt' (g a) (g b) = lt a b) (xs : List α) :
    sortBy lt' (xs.map g) = (sortBy lt xs).map g := by
  induction xs with
  | nil => simp [sortBy]
  | cons x xs ih =>
    simp only [List.map, sortBy, ih]
    exact insertBy_map g lt lt' h x _

theorem totalOrderSortOn_map {α β : Type} (f : α → Key) (f' : β → Key) (g : α → β)
    (h : ∀ a, f' (g a) = f a) (xs : List α) :
    totalOrderSortOn f' (xs.map g) = (totalOrderSortOn f xs).map g := by
  unfold totalOrderSortOn
  have hk : (xs.map g).map f' = xs.map f := by
    simp [List.map_map, Function.comp_def, h]
  simp only [hk]
  split
  · exact sortBy_map g _ _ (by intro a b; simp [h]) xs
  · split
    · exact sortBy_map g _ _ (by intro a b; simp [h]) xs
    · rfl

theorem totalOrderSortOn_length {α : Type} (f : α → Key) (xs : List α) :
    (totalOrderSortOn f xs).length = xs.length :=
  (totalOrderSortOn_perm f xs).length_eq

structure StrictTotalOn {α : Type} (lt : α → α → Bool) (l : List α) : Prop where
  irrefl : ∀ a ∈ l, lt a a = false
  trans : ∀ a ∈ l, ∀ b ∈ l, ∀ c ∈ l, lt a b = true → lt b c = true → lt a c = true
  total : ∀ a ∈ l, ∀ b ∈ l, a ≠ b → lt a b = true ∨ lt b a = true

theorem StrictTotalOn.mono {α : Type} {lt : α → α → Bool} {l l' : List α} (h : StrictTotalOn lt l)
    (hs : l' ⊆ l) : StrictTotalOn lt l' :=
  ⟨fun a ha => h.irrefl a (hs ha), fun a ha b hb c hc => h.trans a (hs ha) b (hs hb) c (hs hc),
   fun a ha b hb => h.total a (hs ha) b (hs hb)⟩

theorem insertBy_sorted {α : Type} (lt : α → α → Bool) (x : α) (xs : List α)
    (hto : StrictTotalOn lt (x :: xs)) (hx : x ∉ xs) (hs : xs.Pairwise (lt · · = true)) :
    (insertBy lt x xs).Pairwise (lt · · = true) := by
  induction xs with
  | nil => simp [insertBy]
  | cons y ys ih =>
    obtain ⟨hy, hs⟩ := List.pairwise_cons.mp hs
    unfold insertBy
    split
    · rename_i hlt
      refine List.pairwise_cons.mpr ⟨fun z hz => ?_,
        ih (hto.mono (List.cons_subset_cons x (List.subset_cons_self y ys))) (fun hc => hx (List.mem_cons_of_mem y hc)) hs⟩
      rcases List.mem_cons.mp ((insertBy_perm lt x ys).mem_iff.mp hz) with rfl | hz
      · exact hlt
      · exact hy z hz
    · rename_i hnlt
      have hxy : lt x y = true :=
        (hto.total y (by simp) x (by simp) fun e => hx (by simp [e])).resolve_left hnlt
      refine List.pairwise_cons.mpr ⟨fun z hz => ?_, List.pairwise_cons.mpr ⟨hy, hs⟩⟩
      rcases List.mem_cons.mp hz with rfl | hz
      · exact hxy
      · exact hto.trans x (by simp) y (by simp) z (by simp [hz]) hxy (hy z hz)

theorem sortBy_sorted {α : Type} (lt : α → α → Bool) (xs : List α) (hto : StrictTotalOn lt xs)
    (hnd : xs.Nodup) : (sortBy lt xs).Pairwise (lt · · = true) := by
  induction xs with
  | nil => simp [sortBy]
  | cons x xs ih =>
    obtain ⟨hx, hnd⟩ := List.nodup_cons.mp hnd
    have hp := sortBy_perm lt xs
    exact insertBy_sorted lt x _ (hto.mono (List.cons_subset_cons x hp.subset)) (fun hc => hx (hp.mem_iff.mp hc))
      (ih (hto.mono (List.subset_cons_self x xs)) hnd)

theorem sortBy_canonical {α : Type} (lt : α → α → Bool) (l1 l2 : List α) (hto : StrictTotalOn lt l1)
    (hp : l1.Perm l2) (hnd : l1.Nodup) : sortBy lt l1 = sortBy lt l2 := by
  have p1 := sortBy_perm lt l1
  have p2 := sortBy_perm lt l2
  -- two sorted permutations of each other are equal: `a < b < a` would give `a < a`
  refine List.Perm.eq_of_pairwise (fun a b ha _ hab hba => ?_) (sortBy_sorted lt l1 hto hnd)
    (sortBy_sorted lt l2 (hto.mono hp.symm.subset) (hp.nodup_iff.mp hnd)) (p1.trans (hp.trans p2.symm))
  have ha := p1.subset ha
  have := hto.trans a ha b (hp.symm.subset (p2.subset ‹_›)) a ha hab hba
  rw [hto.irrefl a ha] at this
  cases this

theorem allPairs_iff {α : Type} (p : α → α → Bool) (l : List α) :
    allPairs p l = true ↔ l.Pairwise (p · · = true) := by
  induction l with
  | nil => simp [allPairs]
  | cons x xs ih => simp [allPairs, ih]

theorem allPairs_perm {α : Type} (p : α → α → Bool) (hsym : ∀ a b, p a b = p b a) {l l' : List α}
    (hp : l.Perm l') : allPairs p l = allPairs p l' := by
  rw [Bool.eq_iff_iff, allPairs_iff, allPairs_iff]
  exact hp.pairwise_iff fun h => (hsym ..).symm.trans h

theorem Key.comparable_symm (a b : Key) : Key.comparable a b = Key.comparable b a := by
  -- keys of different constructors are incomparable both ways; two objects need a look at their tags
  cases a <;> cases b <;> simp only [Key.comparable, Key.lt?, Option.isSome_some, Option.isSome_none]
  rename_i t1 o1 r1 u1 t2 o2 r2 u2
  cases o1 <;> cases o2 <;> simp only [Option.isSome_none]
  by_cases h : t1 = t2
  · subst h; simp
  · simp [h, Ne.symm h]

/-- a strict total order for `<` makes every pair comparable: the first sorting attempt cannot fail -/
theorem stage1Ok_of_strictTotal (ks : List Key) (hnd : ks.Nodup) (hto : StrictTotalOn Key.ltD ks) :
    stage1Ok ks = true := by
  have key : ∀ a b, Key.ltD a b = true → Key.comparable a b = true := fun a b h => by
    unfold Key.ltD at h; unfold Key.comparable
    cases hl : Key.lt? a b <;> simp_all
  refine (allPairs_iff _ ks).mpr (hnd.imp_of_mem fun {a b} ha hb hne => ?_)
  rcases hto.total a ha b hb hne with h | h
  · exact key a b h
  · rw [Key.comparable_symm]; exact key b a h

theorem totalOrderSortOn_canonical_of {α : Type} (f : α → Key) (xs xs' : List α) (hp : xs.Perm xs')
    (hnd : (xs.map f).Nodup) (hto : StrictTotalOn Key.ltD (xs.map f)) :
    totalOrderSortOn f xs = totalOrderSortOn f xs' := by
  have hne : xs.Pairwise (fun a b => f a ≠ f b) := List.pairwise_map.mp hnd
  have hinj : ∀ ⦃a⦄, a ∈ xs → ∀ ⦃b⦄, b ∈ xs → f a = f b → a = b :=
    List.Pairwise.forall_of_forall_of_flip (fun _ _ _ => rfl) (hne.imp fun h e => absurd e h)
      (hne.imp fun h e => absurd e.symm h)
  have htoI : StrictTotalOn (fun a b => Key.ltD (f a) (f b)) xs :=
    ⟨fun a ha => hto.irrefl _ (List.mem_map_of_mem ha),
     fun a ha b hb c hc => hto.trans _ (List.mem_map_of_mem ha) _ (List.mem_map_of_mem hb) _
       (List.mem_map_of_mem hc),
     fun a ha b hb hne => hto.total _ (List.mem_map_of_mem ha) _ (List.mem_map_of_mem hb)
       fun e => hne (hinj ha hb e)⟩
  have hs1 := stage1Ok_of_strictTotal _ hnd hto
  have hs1' : stage1Ok (xs'.map f) = true :=
    hs1 ▸ (allPairs_perm _ Key.comparable_symm (hp.map f)).symm
  unfold totalOrderSortOn
  simp only [hs1, hs1', if_true]
  exact sortBy_canonical _ xs xs' htoI hp (hne.imp fun h e => h (congrArg f e))

theorem intKeys_strictTotal (is : List Int) : StrictTotalOn Key.ltD (is.map Key.int) := by
  refine ⟨?_, ?_, ?_⟩
  · intro a ha
    simp only [List.mem_map] at ha
    obtain ⟨i, _, rfl⟩ := ha
    simp [Key.ltD, Key.lt?]
  · intro a ha b hb c hc
    simp only [List.mem_map] at ha hb hc
    obtain ⟨i, _, rfl⟩ := ha
    obtain ⟨j, _, rfl⟩ := hb
    obtain ⟨k, _, rfl⟩ := hc
    simp only [Key.ltD, Key.lt?, Option.getD_some, decide_eq_true_eq]
    omega
  · intro a ha b hb hne
    simp only [List.mem_map] at ha hb
    obtain ⟨i, _, rfl⟩ := ha
    obtain ⟨j, _, rfl⟩ := hb
    simp only [Key.ltD, Key.lt?, Option.getD_some, decide_eq_true_eq]
    have : i ≠ j := fun e => hne (by rw [e])
    omega

end Optree
