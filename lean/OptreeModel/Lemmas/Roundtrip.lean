/-
  The stack machine `unflattenGo` inverts `flattenGo` (for C01).

  `RT out ts`: run in the middle of any larger run, the machine consumes the records and leaves of `out` and
  pushes `ts`.  It holds of a leaf, of results in sequence, and of a node closed over its children once `makeNode`
  rebuilds the node from them, which is what well-formedness (`PyObj.wf`) is for.
-/
import OptreeModel.Lemmas.FlattenView

namespace Optree

theorem unflattenGo_leaf {node : Node} (hk : node.kind = .leaf) (rest : List Node) (ls st : List PyObj) :
    unflattenGo (node :: rest) ls st =
      if st.length < node.arity then .error .internal
      else match ls with
        | [] => .error .value
        | l :: ls => unflattenGo rest ls (l :: st) := by
  rw [unflattenGo.eq_def]
  simp only [hk]
  rfl

theorem unflattenGo_node {node : Node} (hk : node.kind ≠ .leaf) (rest : List Node) (ls st : List PyObj) :
    unflattenGo (node :: rest) ls st =
      if st.length < node.arity then .error .internal
      else match makeNode node (st.take node.arity).reverse with
        | .error e => .error e
        | .ok out => unflattenGo rest ls (out :: st.drop node.arity) := by
  rw [unflattenGo.eq_def]
  -- `simp` takes the catch-all alternative of `match node.kind` by `hk`
  simp only
  rfl

theorem makeNode_kind_ne_leaf {node : Node} {cs : List PyObj} {t : PyObj} (h : makeNode node cs = .ok t) :
    node.kind ≠ .leaf := by
  intro hk
  rw [makeNode, hk] at h
  split at h <;> cases h

theorem makeNode_isOk_congr (node : Node) (cs1 cs2 : List PyObj) (h : cs1.length = cs2.length) :
    (∃ r, makeNode node cs1 = .ok r) → ∃ r, makeNode node cs2 = .ok r := by
  unfold makeNode
  rw [h]
  -- past the arity check every branch, by kind and payload, is `.error _` or `.ok _` whatever the children are
  repeat' split
  all_goals first | exact id | exact fun _ => ⟨_, rfl⟩

/-- **control flow of `UnflattenImpl` does not depend on the leaf objects**: if a node array unflattens
with one list of leaves, then it unflattens with any other list of the same length, and raises
ValueError ("too few" / "too many" leaves) for any list of a different length -/
theorem unflattenGo_leaf_count (nodes : List Node) :
    ∀ (ls1 st1 : List PyObj) (r : PyObj), unflattenGo nodes ls1 st1 = .ok r →
      ∀ (ls2 st2 : List PyObj), st2.length = st1.length →
        (ls2.length = ls1.length → ∃ r', unflattenGo nodes ls2 st2 = .ok r') ∧
        (ls2.length ≠ ls1.length → unflattenGo nodes ls2 st2 = .error .value) := by
  induction nodes with
  | nil =>
    intro ls1 st1 r h ls2 st2 hst
    simp only [unflattenGo] at h ⊢
    rw [ite_error_eq_ok] at h
    -- no leaf is left and the stack holds one object
    obtain rfl : ls1 = [] := by simpa using h.1
    match st1, h.2, st2, hst with
    | [_], _, [x], _ =>
      cases ls2 with
      | nil => exact ⟨fun _ => ⟨x, rfl⟩, fun hl => absurd rfl hl⟩
      | cons l ls2 => exact ⟨fun hl => by simp at hl, fun _ => rfl⟩
  | cons node rest ih =>
    intro ls1 st1 r h ls2 st2 hst
    by_cases hk : node.kind = .leaf
    · rw [unflattenGo_leaf hk, ite_error_eq_ok] at h
      rw [unflattenGo_leaf hk, if_neg (hst ▸ h.1)]
      match ls1, ls2, h.2 with
      | _ :: ls1', [], _ => exact ⟨fun hl => by simp at hl, fun _ => rfl⟩
      | l1 :: ls1', l2 :: ls2', h =>
        have := ih ls1' (l1 :: st1) r h ls2' (l2 :: st2) (by simp [hst])
        exact ⟨fun hl => this.1 (by simpa using hl), fun hl => this.2 (by simpa using hl)⟩
    · rw [unflattenGo_node hk, ite_error_eq_ok] at h
      rw [unflattenGo_node hk, if_neg (hst ▸ h.1)]
      obtain ⟨-, h⟩ := h
      cases hm : makeNode node (st1.take node.arity).reverse with
      | error e => rw [hm] at h; cases h
      | ok out =>
        rw [hm] at h
        obtain ⟨out2, hm2⟩ := makeNode_isOk_congr node _ (st2.take node.arity).reverse
          (by simp [List.length_take, hst]) ⟨out, hm⟩
        rw [hm2]
        exact ih ls1 _ r h ls2 _ (by simp [List.length_drop, hst])

def RT (out : FlatOut) (ts : List PyObj) : Prop :=
  ∀ rest ls stack,
    unflattenGo (out.nodes ++ rest) (out.leaves ++ ls) stack = unflattenGo rest ls (ts.reverse ++ stack)

theorem RT_empty : RT FlatOut.empty [] := by
  intro rest ls stack
  simp [FlatOut.empty]

theorem RT_leaf (x : PyObj) : RT (leafOut x) [x] := by
  intro rest ls stack
  simp [leafOut, unflattenGo, Node.leaf]

theorem RT_append {a b : FlatOut} {as bs : List PyObj} (ha : RT a as) (hb : RT b bs) :
    RT (a.append b) (as ++ bs) := by
  intro rest ls stack
  simp only [FlatOut.append, List.append_assoc]
  rw [ha, hb]
  simp [List.reverse_append]

theorem RT_seq {f : PyObj → Except Err FlatOut} {cs : List PyObj} {b : FlatOut}
    (ih : ∀ c ∈ cs, ∀ o, f c = .ok o → RT o [c]) (hb : seqOuts (cs.map f) = .ok b) : RT b cs :=
  seqOuts_induct (Q := fun cs b => RT b cs) RT_empty (fun _ _ _ _ => RT_append) ih hb

theorem RT_close {body : FlatOut} {xs : List PyObj} (hbody : RT body xs)
    (kind : Kind) (data : NodeData) (entries : Option (List Key)) (custom : Option Reg)
    (okeys : Option (List Key)) (fc : Bool) (t : PyObj)
    (hmk : makeNode { kind := kind, arity := xs.length, data := data, entries := entries,
                      custom := custom, numLeaves := body.leaves.length,
                      numNodes := body.nodes.length + 1, originalKeys := okeys } xs = .ok t) :
    RT (body.close kind xs.length data entries custom okeys fc) [t] := by
  intro rest ls stack
  simp only [FlatOut.close, List.append_assoc, List.singleton_append]
  rw [hbody, unflattenGo_node (makeNode_kind_ne_leaf hmk), if_neg (by simp),
    List.take_left' List.length_reverse, List.drop_left' List.length_reverse, List.reverse_reverse, hmk]
  rfl

theorem unflatten_of_sane {sp : Spec} (hs : sp.sane = true) (ls : List PyObj) :
    unflatten sp ls = unflattenGo sp.nodes ls [] := by
  simp [unflatten, hs]

theorem RT.unflatten {o : FlatOut} {t : PyObj} (rt : RT o [t]) {sp : Spec} (hn : sp.nodes = o.nodes)
    (hs : sp.sane = true) : unflatten sp o.leaves = .ok t := by
  rw [unflatten_of_sane hs, hn]
  simpa [unflattenGo] using rt [] [] []

theorem mkDeque_of_ok (m : Option Nat) (xs : List PyObj) (h : maxlenOk m xs.length = true) :
    mkDeque m xs = .deque m xs := by
  cases m with
  | none => rfl
  | some n =>
    have : xs.length - n = 0 := Nat.sub_eq_zero_of_le (of_decide_eq_true h)
    rw [mkDeque, this, List.drop_zero]

theorem customUnflatten_view {cfg : Cfg} (hreg : cfg.reg.OK) {s : Bool} {x : PyObj} {reg : Reg} {md : Option Key}
    {q : Quirk} {cs : List PyObj} (hv : x.view cfg s = .custom reg md q cs) :
    (∀ ts, (customUnflatten reg md ts).view cfg s = .custom reg md .ok ts) ∧
      (q = .ok → customUnflatten reg md cs = x) := by
  cases x <;> simp only [PyObj.view] at hv <;> (try split at hv) <;> cases hv
  all_goals
    rename_i hl
    -- `hl` is the lookup that made `x` a custom node.  By `Registry.OK` the registration found names `x`'s own class
    -- and class kind: `customUnflatten` picks `x`'s constructor, and the view of what it builds repeats lookup `hl`.
    obtain ⟨hc, hk⟩ := hreg _ _ _ _ hl
    simp +contextual [customUnflatten, hc, hk, PyObj.view, hl]

theorem makeNode_view (cfg : Cfg) (s : Bool) (x : PyObj) (hwf : x.wf = true) :
    match x.view cfg s with
    | .node k data ok cs => ∀ nl nn, makeNode ⟨k, cs.length, data, Option.none, Option.none, nl, nn, ok⟩ cs = .ok x
    | _ => True := by
  cases x <;> simp only [PyObj.view, PyObj.wf, Bool.and_eq_true, decide_eq_true_eq, beq_iff_eq] at hwf ⊢
  case none => cases cfg.noneIsLeaf <;> simp [makeNode]
  case tuple xs | list xs => simp [makeNode]
  case deque m xs => simp [makeNode, mkDeque_of_ok m xs hwf.1]
  case dict kvs | ddict f kvs =>
    simp [makeNode, dictBuild_eq_of_perm kvs _ (dictOrder_perm false s kvs) hwf.1, dictOrder_length]
  case odict kvs => simp [makeNode, dictBuild_none kvs hwf.1]
  case ntuple cls xs => cases cfg.reg.lookup cfg.ns 1 cls <;> simp [makeNode]
  case sseq cls xs => cases cfg.reg.lookup cfg.ns 2 cls <;> simp [makeNode]
  case user cls md q xs => cases cfg.reg.lookup cfg.ns 0 cls <;> trivial

/-- Flatten then unflatten, at any subtree: the records and leaves a successful `flattenGo` returns for a
well-formed `t` (any depth, either dict order, any predicate; a registry that is `Registry.OK`) make the stack
machine of `PyTreeSpec::Unflatten` push exactly `t` (`RT`). -/
theorem pobj (cfg : Cfg) (hreg : cfg.reg.OK) (s : Bool) (t : PyObj) :
    t.wf = true → ∀ d out, flattenGo cfg s d t = .ok out → RT out [t] := by
  induction t using PyObj.view_induct cfg s with | _ t ih
  intro hwf d out h
  obtain ⟨-, ⟨-, rfl⟩ | ⟨-, h⟩⟩ := flattenGo_ok h
  · exact RT_leaf t
  have ih := fun c hc => ih c hc (PyObj.wf_kids cfg s hwf c hc)
  have hmk := makeNode_view cfg s t hwf
  cases hv : t.view cfg s <;> simp only [hv, View.kids] at h ih hmk
  case leaf => cases h; exact RT_leaf t
  case node k data ok cs =>
    obtain ⟨b, hb, rfl⟩ := closeSeq_ok h
    exact RT_close (RT_seq (fun c hc => ih c hc (d + 1)) hb) k data _ _ ok false t (hmk _ _)
  case custom reg md q cs =>
    obtain ⟨b, entries, hb, rfl⟩ := customFlatten_ok h
    rw [List.length_map, customOutOf_md]
    exact RT_close (RT_seq (fun c hc => ih c hc (d + 1)) hb) .custom (.md md) entries (some reg) _ true t
      (by simp [makeNode, (customUnflatten_view hreg hv).2 (PyObj.wf_quirk hwf hv)])

/-- the statement of `pobj`, for `pkvs` -/
def Pobj (cfg : Cfg) (s : Bool) (t : PyObj) : Prop :=
  ∀ d out, flattenGo cfg s d t = .ok out → RT out [t]

theorem pkvs (cfg : Cfg) (hreg : cfg.reg.OK) (s : Bool) :
    ∀ kvs : List (Key × PyObj), PyObj.wfKVs kvs = true → ∀ p ∈ kvs, Pobj cfg s p.2 :=
  fun _ h p hp => pobj cfg hreg s p.2 (PyObj.wfKVs_mem h p hp)

/-- the last record of a flatten result describes the whole result: the treespec made of its records passes
the engine's sanity check and counts its leaves -/
theorem flattenGo_sane (cfg : Cfg) (s : Bool) (d : Nat) (t : PyObj) (out : FlatOut)
    (h : flattenGo cfg s d t = .ok out) (nil : Bool) (ns : String) :
    (Spec.mk out.nodes nil ns).sane = true ∧ (Spec.mk out.nodes nil ns).numLeaves = out.leaves.length := by
  obtain ⟨-, ⟨-, rfl⟩ | ⟨-, h⟩⟩ := flattenGo_ok h
  · exact ⟨rfl, rfl⟩
  cases hv : t.view cfg s <;> simp only [hv] at h
  · cases h; exact ⟨rfl, rfl⟩
  · obtain ⟨b, -, rfl⟩ := closeSeq_ok h
    simp [FlatOut.close, Spec.sane, Spec.numLeaves]
  · obtain ⟨b, _, -, rfl⟩ := customFlatten_ok h
    simp [FlatOut.close, Spec.sane, Spec.numLeaves]

end Optree
