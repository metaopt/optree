/-
  `PyTreeSpec::Paths` on encodings is the tree-level path listing `STree.pathsT` (refinement, for
  C03 / C04): one path per leaf, in leaf order, each the sequence of child entries from the root.

  The paths `flatten_with_path` computes on the fly (entry stack carried down the recursion) are the
  paths `STree.pathsT` of the tree's shape — hence equal to what `treespec.paths()` reads off the node
  array.  At a node both sides pair the children with the node's child entries: `flatten_with_path`
  visits child `c` under entry `e` with the stack `path ++ [e]`, `pathsT` lists the paths of the shape
  of `c` below `path ++ [e]`.
-/
import OptreeModel.Lemmas.ShapeOf
import OptreeModel.Lemmas.EncInspect
import OptreeModel.Lemmas.Control
import Std.Data.String.ToNat

namespace Optree

mutual
/-- every node has exactly one child entry per child (what `flatten` guarantees: it rejects a custom
node whose entries and children differ in number) -/
def STree.entriesOk : STree → Bool
  | .leaf => true
  | .node i cs => (i.childEntries cs.length).length == cs.length && STree.entriesOkL cs
def STree.entriesOkL : List STree → Bool
  | [] => true
  | c :: cs => c.entriesOk && STree.entriesOkL cs
end

theorem pathsChildren_append (fuel : Nat) (xs ys : List Key) (rest : List Node) (stack : List Key)
    (acc : List (List Key)) :
    pathsChildren fuel (xs ++ ys) rest stack acc =
      match pathsChildren fuel xs rest stack acc with
      | .error e => .error e
      | .ok (acc', rest') => pathsChildren fuel ys rest' stack acc' := by
  induction xs generalizing rest acc with
  | nil => simp [pathsChildren]
  | cons x xs ih =>
    simp only [List.cons_append, pathsChildren]
    cases pathsGo fuel rest (stack ++ [x]) acc with
    | error e => rfl
    | ok p => obtain ⟨a, r⟩ := p; exact ih r a

mutual
theorem STree.pathsT_length : ∀ (s : STree) (pre : List Key), s.entriesOk = true →
    (s.pathsT pre).length = s.leaves
  | .leaf, _, _ => rfl
  | .node i cs, pre, h => by
      simp only [STree.entriesOk, Bool.and_eq_true, beq_iff_eq] at h
      simp only [STree.pathsT, STree.leaves]
      exact STree.pathsL_length cs _ pre h.1 h.2
theorem STree.pathsL_length : ∀ (cs : List STree) (es pre : List Key), es.length = cs.length →
    STree.entriesOkL cs = true → (STree.pathsL cs es pre).length = STree.leavesL cs
  | [], _, _, _, _ => by simp [STree.pathsL, STree.leavesL]
  | c :: cs, [], _, h, _ => nomatch h
  | c :: cs, e :: es, pre, h, hk => by
      simp only [STree.entriesOkL, Bool.and_eq_true] at hk
      simp only [STree.pathsL, List.length_append, STree.leavesL,
        STree.pathsT_length c (pre ++ [e]) hk.1, STree.pathsL_length cs es pre (by simpa using h) hk.2]
end

theorem pathsGo_node (i : NInfo) (n l m : Nat) (hk : i.kind ≠ .leaf) (hl : (i.childEntries n).length = n)
    (fuel : Nat) (rest : List Node) (stack : List Key) (acc : List (List Key)) :
    pathsGo (fuel + 1) (i.toNode n l m :: rest) stack acc =
      pathsChildren fuel (i.childEntries n).reverse rest stack acc := by
  have hlt : ¬ ((i.childEntries n).length < n) := Nat.not_lt.mpr (Nat.le_of_eq hl.symm)
  simp only [pathsGo, NInfo.childEntries_toNode, NInfo.toNode_entries, NInfo.toNode_kind, NInfo.toNode_arity,
    hlt, if_false]
  split
  · rename_i h1 h2; exact absurd h2 hk
  · -- a `None` node has no entries: the loop over them returns at once
    rename_i h1 h2
    have : i.childEntries n = [] := by
      simp [NInfo.childEntries, Node.childEntries, NInfo.toNode, h1, Node.defaultEntries, h2]
    simp [this, pathsChildren]
  · rfl

mutual
theorem pathsGo_enc : ∀ (s : STree), s.wf = true → s.entriesOk = true → ∀ (fuel : Nat), s.size ≤ fuel →
    ∀ (rest : List Node) (stack : List Key) (acc : List (List Key)),
      pathsGo fuel (s.renc ++ rest) stack acc = .ok (s.pathsT stack ++ acc, rest)
  | .leaf, _, _, fuel, hf, rest, stack, acc => by
      cases fuel with
      | zero => cases hf
      | succ f => simp [STree.renc_leaf, pathsGo, Node.leaf, STree.pathsT]
  | .node i cs, hw, hk, fuel, hf, rest, stack, acc => by
      cases fuel with
      | zero => cases hf
      | succ f =>
        obtain ⟨hnl, _, _, hwl⟩ := STree.wf_node hw
        simp only [STree.entriesOk, Bool.and_eq_true, beq_iff_eq] at hk
        rw [STree.renc_node, List.cons_append, pathsGo_node i _ _ _ hnl hk.1, STree.pathsT]
        exact pathsChildren_enc cs hwl hk.2 f (Nat.le_of_succ_le_succ hf) _ hk.1 rest stack acc
theorem pathsChildren_enc : ∀ (cs : List STree), STree.wfL cs = true → STree.entriesOkL cs = true →
    ∀ (fuel : Nat), STree.sizeL cs ≤ fuel → ∀ (es : List Key), es.length = cs.length →
    ∀ (rest : List Node) (stack : List Key) (acc : List (List Key)),
      pathsChildren fuel es.reverse (STree.rencL cs ++ rest) stack acc =
        .ok (STree.pathsL cs es stack ++ acc, rest)
  | [], _, _, fuel, _, es, hl, rest, stack, acc => by
      have : es = [] := List.length_eq_zero_iff.mp hl
      subst this
      simp [pathsChildren, STree.rencL_nil, STree.pathsL]
  | c :: cs, hw, hk, fuel, hf, [], hl, _, _, _ => nomatch hl
  | c :: cs, hw, hk, fuel, hf, e :: es, hl, rest, stack, acc => by
      simp only [STree.wfL, STree.entriesOkL, Bool.and_eq_true] at hw hk
      simp only [STree.sizeL] at hf
      simp only [List.reverse_cons, STree.rencL_cons, List.append_assoc]
      rw [pathsChildren_append,
        pathsChildren_enc cs hw.2 hk.2 fuel (Nat.le_trans (Nat.le_add_left ..) hf) es (Nat.succ.inj hl)
          (c.renc ++ rest) stack acc]
      simp only [pathsChildren]
      rw [pathsGo_enc c hw.1 hk.1 fuel (Nat.le_trans (Nat.le_add_right ..) hf) rest (stack ++ [e])
        (STree.pathsL cs es stack ++ acc)]
      simp only [STree.pathsL, List.append_assoc]
end

/-- **`paths()` lists, in leaf order, the child entries from the root to every leaf** -/
theorem paths_enc (s : STree) (hw : s.wf = true) (hk : s.entriesOk = true) (nil : Bool) (ns : String) :
    paths (s.spec nil ns) = .ok (s.pathsT []) := by
  have hlen := STree.pathsT_length s [] hk
  have hgo := pathsGo_enc s hw hk (s.size + 1) (Nat.le_succ _) [] [] []
  rw [List.append_nil, List.append_nil, STree.renc] at hgo
  unfold paths
  simp only [STree.spec_sane, STree.spec_numLeaves, STree.spec_numNodes, Bool.not_true, Bool.false_eq_true, if_false]
  simp only [STree.spec, STree.enc_length, hgo, List.isEmpty_nil, hlen, bne_self_eq_false, Bool.not_true,
    Bool.false_eq_true, if_false]
  by_cases h0 : (s.leaves == 0) = true
  · rw [if_pos h0, List.eq_nil_of_length_eq_zero (hlen.trans (beq_iff_eq.mp h0))]
  rw [if_neg h0]
  by_cases h1 : (s.size == 1 && s.leaves == 1) = true
  · rw [if_pos h1]
    cases s with
    | leaf => rfl
    | node i cs =>
      -- an internal node with one node in all has no leaf
      have := STree.leavesL_le_sizeL cs
      simp only [STree.size, STree.leaves, Bool.and_eq_true, beq_iff_eq] at h1
      rw [h1.2, Nat.succ.inj h1.1] at this
      cases this
  · rw [if_neg h1]

/-! The lengths of `namedEntries` and `shiftedEntries` are in FlattenView.lean, which needs them. -/

theorem intEntries_length (n : Nat) : (intEntries n).length = n := by simp [intEntries]

theorem intEntries_getElem? (n i : Nat) (h : i < n) : (intEntries n)[i]? = some (Key.int (i : Int)) := by
  simp [intEntries, h]

theorem nodup_map_range {α : Type} (f : Nat → α) (n : Nat) (hf : ∀ {a b}, f a = f b → a = b) :
    ((List.range n).map f).Nodup := by
  rw [List.nodup_iff_pairwise_ne, List.pairwise_map]
  exact (List.nodup_iff_pairwise_ne.mp List.nodup_range).imp fun h he => h (hf he)

theorem intEntries_nodup (n : Nat) : (intEntries n).Nodup :=
  nodup_map_range _ n fun he => by have := Key.int.inj he; omega

theorem namedEntries_nodup (n : Nat) : (namedEntries n).Nodup :=
  nodup_map_range _ n fun {a b} he => by
    have h1 : s!"c{a}" = s!"c{b}" := Key.str.inj he
    have h2 : toString "c" ++ toString a = toString "c" ++ toString b := by simpa using h1
    exact Nat.repr_injective ((String.append_right_inj (toString "c")).mp h2)

theorem shiftedEntries_nodup (n : Nat) : (shiftedEntries n).Nodup :=
  nodup_map_range _ n fun he => by have := Key.int.inj he; omega

theorem seq_childEntries (i : NInfo) (n : Nat) (he : i.entries = Option.none)
    (hk : i.kind = .tuple ∨ i.kind = .list ∨ i.kind = .deque ∨ i.kind = .namedtuple ∨ i.kind = .structseq) :
    i.childEntries n = intEntries n := by
  simp only [NInfo.childEntries, Node.childEntries, NInfo.toNode, he, Node.defaultEntries]
  rcases hk with h | h | h | h | h <;> simp [h]

theorem dict_childEntries (i : NInfo) (n : Nat) (he : i.entries = Option.none) (hd : i.kind.isDict = true) :
    i.childEntries n = i.keys := by
  simp only [NInfo.childEntries, Node.childEntries, NInfo.toNode, he, Node.defaultEntries]
  cases hk : i.kind <;> simp [hk, Kind.isDict] at hd ⊢ <;> rfl

theorem custom_childEntries (i : NInfo) (r : Reg) (n : Nat) (hk : i.kind = .custom)
    (he : i.entries = customEntries r n) :
    i.childEntries n = (customEntries r n).getD (intEntries n) := by
  simp only [NInfo.childEntries, Node.childEntries, NInfo.toNode, he, Node.defaultEntries, hk, customEntries]
  cases r.mode <;> simp [namedEntries_length, shiftedEntries_length, List.take_of_length_le]

theorem plainInfo_childEntries {k : Kind} {data : NodeData} {n : Nat} (h : PlainNode k data n)
    (ok : Option (List Key)) : (plainInfo k data ok).childEntries n = defaultEntriesOf data n := by
  cases h <;> rfl

theorem STree.entriesOkL_iff (cs : List STree) : STree.entriesOkL cs = true ↔ ∀ c ∈ cs, c.entriesOk = true :=
  all_rec_iff rfl (fun _ _ => rfl) cs

def EO (cfg : Cfg) (s : Bool) (t : PyObj) : Prop := (shapeOf cfg s t).entriesOk = true

/-- Every node of the shape of a tree has one child entry per child — positions or the dict's keys at a built-in
node, the entries of a well-behaved registration at a custom node — so `paths()` of a treespec `flatten` makes
is `pathsT` of the shape (`paths_enc`). -/
theorem eo (cfg : Cfg) (s : Bool) (t : PyObj) : EO cfg s t := by
  induction t using PyObj.view_induct cfg s with | _ t ih
  have hn := PyObj.view_plain cfg s t
  unfold EO
  rw [shapeOf_view]
  cases hv : t.view cfg s <;> simp only [hv, View.kids] at ih hn ⊢
  case leaf => rfl
  case node k data ok cs =>
    simp [STree.entriesOk, plainInfo_childEntries hn ok, hn.entries_length,
      (STree.entriesOkL_iff _).mpr (List.forall_mem_map.mpr ih)]
  case custom reg md q cs =>
    simp [STree.entriesOk, custom_childEntries (customInfo reg md cs.length) reg _ rfl rfl, customEntries_getD_length,
      (STree.entriesOkL_iff _).mpr (List.forall_mem_map.mpr ih)]

theorem eoKVs (cfg : Cfg) (s : Bool) : ∀ kvs : List (Key × PyObj), ∀ p ∈ kvs, EO cfg s p.2 :=
  fun _ p _ => eo cfg s p.2

mutual
theorem STree.pathsT_prefix : ∀ (s : STree) (pre : List Key) (p : List Key), p ∈ s.pathsT pre → pre <+: p
  | .leaf, pre, p, h => by
      simp only [STree.pathsT, List.mem_singleton] at h
      subst h; exact List.prefix_refl _
  | .node i cs, pre, p, h => by
      obtain ⟨e, _, hp⟩ := STree.pathsL_prefix cs _ pre p h
      exact (List.prefix_append pre [e]).trans hp
theorem STree.pathsL_prefix : ∀ (cs : List STree) (es pre : List Key) (p : List Key),
    p ∈ STree.pathsL cs es pre → ∃ e ∈ es, (pre ++ [e]) <+: p
  | [], _, _, _, h => nomatch h
  | _ :: _, [], _, _, h => nomatch h
  | c :: cs, e :: es, pre, p, h => by
      simp only [STree.pathsL, List.mem_append] at h
      rcases h with h | h
      · exact ⟨e, by simp, STree.pathsT_prefix c (pre ++ [e]) p h⟩
      · obtain ⟨e', he', hp⟩ := STree.pathsL_prefix cs es pre p h
        exact ⟨e', by simp [he'], hp⟩
end

theorem STree.pathsL_prefix' (cs : List STree) (es pre p : List Key) (h : p ∈ STree.pathsL cs es pre) :
    pre <+: p := by
  obtain ⟨e, _, hp⟩ := STree.pathsL_prefix cs es pre p h
  exact (List.prefix_append pre [e]).trans hp

mutual
def STree.entriesNodup : STree → Bool
  | .leaf => true
  | .node i cs => decide (i.childEntries cs.length).Nodup && STree.entriesNodupL cs
def STree.entriesNodupL : List STree → Bool
  | [] => true
  | c :: cs => c.entriesNodup && STree.entriesNodupL cs
end

theorem STree.entriesNodupL_iff (cs : List STree) :
    STree.entriesNodupL cs = true ↔ ∀ c ∈ cs, c.entriesNodup = true :=
  all_rec_iff rfl (fun _ _ => rfl) cs

theorem STree.pathsL_eq_flatten : ∀ (cs : List STree) (es pre : List Key),
    STree.pathsL cs es pre = (List.zipWith (fun e c => STree.pathsT c (pre ++ [e])) es cs).flatten
  | [], _, _ => by simp [STree.pathsL]
  | _ :: _, [], _ => by simp [STree.pathsL]
  | c :: cs, e :: es, pre => by
      simp [STree.pathsL, STree.pathsL_eq_flatten cs es pre]

theorem seqOutsP_paths {F : List Key → PyObj → Except Err FlatOutP} {sh : PyObj → STree} (path : List Key)
    (i : NInfo) (cs : List PyObj) (ih : ∀ c ∈ cs, ∀ p o, F p c = .ok o → o.leaves.map (·.1) = (sh c).pathsT p)
    {es : List Key} (he : i.childEntries cs.length = es) {b : FlatOutP}
    (hb : seqOutsP (List.zipWith (fun e c => F (path ++ [e]) c) es cs) = .ok b) :
    b.leaves.map (·.1) = (STree.node i (cs.map sh)).pathsT path := by
  rw [← List.map_uncurry_zip_eq_zipWith] at hb
  rw [STree.pathsT, List.length_map, he, STree.pathsL_eq_flatten, List.zipWith_map_right,
    ← List.map_uncurry_zip_eq_zipWith]
  refine seqOutsP_map_induct _ (Q := fun ps b => (∀ p ∈ ps, p.2 ∈ cs) →
    b.leaves.map (·.1) = (ps.map fun p => (sh p.2).pathsT (path ++ [p.1])).flatten) (fun _ => rfl) ?_ _ b hb
    (fun p hp => (List.of_mem_zip hp).2)
  intro p ps a b ha _ hps hmem
  simp [FlatOutP.append, ih p.2 (hmem p (by simp)) _ a ha, hps fun q hq => hmem q (by simp [hq])]

def PSh (cfg : Cfg) (s : Bool) (t : PyObj) : Prop :=
  ∀ d path out, flattenGoP cfg s d path t = .ok out →
    out.leaves.map (·.1) = (shapeOf cfg s t).pathsT path

/-- Without a predicate, the paths `flatten_with_path` returns for a well-formed tree — at any depth, below any
entry stack `path` — are the paths of the tree's shape below `path`: by `paths_enc`, what `paths()` reads off
the treespec (C03). -/
theorem psh (cfg : Cfg) (hp : cfg.pred = Option.none) (s : Bool) (t : PyObj) : t.wf = true → PSh cfg s t := by
  induction t using PyObj.view_induct cfg s with | _ t ih
  intro hwf d path out h
  have ih := fun c hc => ih c hc (PyObj.wf_kids cfg s hwf c hc) (d + 1)
  rw [flattenGoP_view, ite_error_eq_ok, evalPred_none cfg hp] at h
  obtain ⟨-, h⟩ := h
  have hn := PyObj.view_plain cfg s t
  rw [shapeOf_view]
  cases hv : t.view cfg s <;> simp only [hv, View.kids] at h ih hn ⊢
  case leaf => cases h; rfl
  case node k data ok cs =>
    obtain ⟨b, hb, rfl⟩ := seqCloseP_ok h
    exact (seqOutsP_paths path _ cs ih (plainInfo_childEntries hn ok) hb :)
  case custom reg md q cs =>
    obtain rfl := PyObj.wf_quirk hwf hv
    rw [customFlattenP_regEntries] at h
    obtain ⟨b, hb, rfl⟩ := seqCloseP_ok h
    exact (seqOutsP_paths path (customInfo reg md cs.length) cs ih (custom_childEntries _ reg _ rfl rfl) hb :)

theorem pshKVs (cfg : Cfg) (hp : cfg.pred = Option.none) (s : Bool) : ∀ kvs : List (Key × PyObj),
    PyObj.wfKVs kvs = true → ∀ p ∈ kvs, PSh cfg s p.2 :=
  fun _ h p hp' => psh cfg hp s p.2 (PyObj.wfKVs_mem h p hp')

theorem flattenListP_length (cfg : Cfg) (s : Bool) (d : Nat) (path : List Key) :
    ∀ (xs : List PyObj) (i : Nat), (flattenListP cfg s d path i xs).length = xs.length :=
  fun xs i => by simp [flattenListP_eq]

end Optree
