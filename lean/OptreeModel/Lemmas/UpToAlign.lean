/-
  What `flatten_up_to` returns per leaf: the sub-tree of the matched tree found by following that
  leaf's path (C05: "aligned arguments").

  `PyObj.follow` walks a path down a tree, one `PyObj.step` per entry.  At one level the children a record
  hands back are the ones its child entries lead to (`Matches.steps`), so the leaf paths of a shape lead to
  the sub-trees `STree.upTo` returns (`upTo_aligned`).  This asks of the shape that the child entries of a
  node are distinct and that custom nodes carry the entries of their registration, which holds of every
  shape `flatten` makes (`nr`).

  Matching a tree against its *own* treespec returns exactly its leaves, in flatten order
  (`spec.flatten_up_to(tree) == tree_leaves(tree)`), for C04 / C05: together with the alignment theorem
  the i-th path (and accessor) of a treespec addresses the i-th leaf.
-/
import OptreeModel.Lemmas.EncPaths
import OptreeModel.Lemmas.UpToPrefix
import OptreeModel.Lemmas.Leaves

namespace Optree

/-- the entries under which a tree exposes its children, and the children, as an accessor sees them: positions,
dict keys (in the dict's own order: a key is looked up, so the order does not matter), the registration's entries
for a well-behaved instance of a registered class; `None` and leaves expose nothing -/
def PyObj.level (cfg : Cfg) : PyObj → List Key × List PyObj
  | .tuple xs | .list xs | .deque _ xs => (intEntries xs.length, xs)
  | .dict kvs | .odict kvs | .ddict _ kvs => (kvs.map (·.1), kvs.map (·.2))
  | .ntuple cls xs =>
      match cfg.reg.lookup cfg.ns 1 cls with
      | some reg => ((customEntries reg xs.length).getD (intEntries xs.length), xs)
      | Option.none => (intEntries xs.length, xs)
  | .sseq cls xs =>
      match cfg.reg.lookup cfg.ns 2 cls with
      | some reg => ((customEntries reg xs.length).getD (intEntries xs.length), xs)
      | Option.none => (intEntries xs.length, xs)
  | .user cls _ _ xs =>
      match cfg.reg.lookup cfg.ns 0 cls with
      | some reg => ((customEntries reg xs.length).getD (intEntries xs.length), xs)
      | Option.none => ([], [])
  | _ => ([], [])

def lookupEntry (e : Key) : List Key → List PyObj → Option PyObj
  | k :: ks, x :: xs => if k == e then some x else lookupEntry e ks xs
  | _, _ => Option.none

def PyObj.step (cfg : Cfg) (t : PyObj) (e : Key) : Option PyObj :=
  lookupEntry e (t.level cfg).1 (t.level cfg).2

def PyObj.follow (cfg : Cfg) : PyObj → List Key → Option PyObj
  | t, [] => some t
  | t, e :: p =>
      match t.step cfg e with
      | some c => PyObj.follow cfg c p
      | Option.none => Option.none

theorem lookupEntry_zip (es : List Key) (xs : List PyObj) (hnd : es.Nodup) (i : Nat) (e : Key) (x : PyObj)
    (h1 : es[i]? = some e) (h2 : xs[i]? = some x) : lookupEntry e es xs = some x := by
  induction es generalizing xs i with
  | nil => cases h1
  | cons k ks ih =>
    obtain ⟨hk, hnd⟩ := List.nodup_cons.mp hnd
    cases xs with
    | nil => cases h2
    | cons y ys =>
      rw [lookupEntry]
      cases i with
      | zero =>
        cases h1; cases h2
        exact if_pos (beq_self_eq_true _)
      | succ i =>
        rw [if_neg, ih ys hnd i h1 h2]
        intro heq
        exact hk (beq_iff_eq.mp heq ▸ List.mem_of_getElem? h1)

theorem lookupEntry_kvs (e : Key) (kvs : List (Key × PyObj)) :
    lookupEntry e (kvs.map (·.1)) (kvs.map (·.2)) = lookupKey e kvs := by
  induction kvs with
  | nil => rfl
  | cons p l ih => obtain ⟨k, v⟩ := p; simp only [List.map_cons, lookupEntry, lookupKey, ih]

/-- `p` without its first `n` entries, those that lead from the root to `t`, leads from `t` to `s` -/
def Reaches (cfg : Cfg) (t : PyObj) (n : Nat) (p : List Key) (s : PyObj) : Prop :=
  PyObj.follow cfg t (p.drop n) = some s

theorem reaches_child (cfg : Cfg) (t x : PyObj) (e : Key) (pre p : List Key) (s : PyObj)
    (hstep : t.step cfg e = some x) (hp : (pre ++ [e]) <+: p)
    (h : Reaches cfg x (pre.length + 1) p s) : Reaches cfg t pre.length p s := by
  obtain ⟨rest, rfl⟩ := hp
  rw [Reaches, List.drop_left' (show (pre ++ [e]).length = pre.length + 1 from List.length_append)] at h
  rw [Reaches, List.append_assoc, List.drop_left, List.singleton_append, PyObj.follow, hstep]
  exact h

theorem steps_of_level (cfg : Cfg) (t : PyObj) (es : List Key) (xs : List PyObj)
    (hlev : t.level cfg = (es, xs)) (hnd : es.Nodup) :
    ∀ (idx : Nat) (e : Key) (x : PyObj), es[idx]? = some e → xs[idx]? = some x → t.step cfg e = some x := by
  intro idx e x h1 h2
  unfold PyObj.step
  rw [hlev]
  exact lookupEntry_zip es xs hnd idx e x h1 h2

/-- custom nodes carry the entries their registration reports (as in every shape `flatten` makes) -/
def NInfo.entriesFromReg (i : NInfo) (n : Nat) : Bool :=
  match i.kind, i.custom with
  | .custom, some r => i.entries == customEntries r n
  | .custom, Option.none => false
  | _, _ => i.entries.isNone

mutual
def STree.entriesReg : STree → Bool
  | .leaf => true
  | .node i cs => i.entriesFromReg cs.length && STree.entriesRegL cs
def STree.entriesRegL : List STree → Bool
  | [] => true
  | c :: cs => c.entriesReg && STree.entriesRegL cs
end

theorem NInfo.entriesFromReg_iff (i : NInfo) (n : Nat) : i.entriesFromReg n = true ↔
    if i.kind = .custom then ∃ r, i.custom = some r ∧ i.entries = customEntries r n else i.entries = Option.none := by
  unfold NInfo.entriesFromReg
  split
  · rename_i hk hc; simp [hk, hc]
  · rename_i hk hc; simp [hk, hc]
  · rename_i h1 h2
    rw [if_neg fun hk => ?_, Option.isNone_iff_eq_none]
    cases hc : i.custom
    · exact h2 hk hc
    · exact h1 _ hk hc

theorem level_of_dictItems (cfg : Cfg) {t : PyObj} {kvs : List (Key × PyObj)} (h : dictItems? t = some kvs) :
    t.level cfg = (kvs.map (·.1), kvs.map (·.2)) := by
  cases t <;> simp only [dictItems?, reduceCtorEq, Option.some.injEq] at h <;> subst h <;> rfl

theorem level_of_custom {cfg : Cfg} {t : PyObj} {reg : Reg} {xs : List PyObj}
    (hlo : lookupForObject cfg.reg cfg.ns t = some reg) (hch : (customOut reg t).children = some xs) :
    t.level cfg = ((customEntries reg xs.length).getD (intEntries xs.length), xs) := by
  obtain ⟨c, md, q, ys, rfl, hl⟩ | ⟨c, ys, rfl, hl⟩ | ⟨c, ys, rfl, hl⟩ := lookupForObject_eq_some hlo <;>
    simp only [customOut, customParts, customOutOf] at hch
  · cases q <;> simp at hch <;> subst hch <;> simp [PyObj.level, hl]
  · cases hch; simp [PyObj.level, hl]
  · cases hch; simp [PyObj.level, hl]

theorem Matches.steps (cfg : Cfg) {i : NInfo} {n : Nat} {t : PyObj} {xs : List PyObj}
    (h : Matches cfg.reg cfg.noneIsLeaf cfg.ns i n t xs) (hrf : i.regFree cfg.reg cfg.ns = true)
    (hreg : i.entriesFromReg n = true) (hnd : (i.childEntries n).Nodup) :
    ∀ (idx : Nat) (e : Key) (x : PyObj), (i.childEntries n)[idx]? = some e → xs[idx]? = some x →
      t.step cfg e = some x := by
  rw [NInfo.entriesFromReg_iff] at hreg
  -- the five sequence kinds: the object exposes `xs` under positions, and positions are the record's child entries
  have seq : i.kind = .tuple ∨ i.kind = .list ∨ i.kind = .deque ∨ i.kind = .namedtuple ∨ i.kind = .structseq →
      xs.length = n → t.level cfg = (intEntries xs.length, xs) →
      ∀ (idx : Nat) (e : Key) (x : PyObj), (i.childEntries n)[idx]? = some e → xs[idx]? = some x →
        t.step cfg e = some x := by
    intro hk hl hlev
    rw [if_neg (by rcases hk with h | h | h | h | h <;> rw [h] <;> nofun)] at hreg
    refine steps_of_level cfg t _ xs ?_ hnd
    rw [hlev, seq_childEntries i n hreg hk, hl]
  cases h
  case none => intro idx e x _ h2; cases h2
  case tuple hk hl => exact seq (.inl hk) hl rfl
  case list hk hl => exact seq (.inr (.inl hk)) hl rfl
  case deque hk hl => exact seq (.inr (.inr (.inl hk))) hl rfl
  case ntuple c hk hd hl =>
    have hlk := NInfo.regFree_namedtuple hrf hk hd
    exact seq (.inr (.inr (.inr (.inl hk)))) hl (by simp [PyObj.level, hlk])
  case sseq c hk hd hl =>
    have hlk := NInfo.regFree_structseq hrf hk hd
    exact seq (.inr (.inr (.inr (.inr hk)))) hl (by simp [PyObj.level, hlk])
  case dict kvs hd hks hdi hm =>
    rw [if_neg (Kind.isDict_ne_custom hd)] at hreg
    intro idx e x h1 h2
    rw [dict_childEntries i n hreg hd] at h1
    rw [PyObj.step, level_of_dictItems cfg hdi, lookupEntry_kvs]
    exact mapM_getElem hm h1 h2
  case custom nreg hk hc hlo hno hd hl hch =>
    obtain ⟨r, hr, hent⟩ := (if_pos hk ▸ hreg :)
    cases hc.symm.trans hr
    refine steps_of_level cfg t _ xs ?_ hnd
    rw [custom_childEntries i nreg n hk hent, ← hl, level_of_custom hlo hch]

mutual
/-- **each sub-tree `flatten_up_to` returns is the one reached from the matched tree by the
corresponding leaf path of the treespec** -/
theorem upTo_aligned (cfg : Cfg) : ∀ a : STree, a.wf = true → a.entriesOk = true → a.entriesNodup = true →
    a.entriesReg = true → a.good cfg.reg cfg.ns = true →
    ∀ (t : PyObj) (pre : List Key) (subs : List PyObj),
      a.upTo cfg.reg cfg.noneIsLeaf cfg.ns t = .ok subs → Pairs (Reaches cfg t pre.length) (a.pathsT pre) subs
  | .leaf, _, _, _, _, _, t, pre, subs, h => by
      cases h
      exact Pairs.cons (by simp [Reaches, PyObj.follow]) Pairs.nil
  | .node i cs, hw, hok, hnd, hreg, hg, t, pre, subs, h => by
      obtain ⟨_, hnone, hdict, hwl⟩ := STree.wf_node hw
      obtain ⟨_, hrf, hgl⟩ := STree.good_node hg
      simp only [STree.entriesOk, Bool.and_eq_true, beq_iff_eq] at hok
      simp only [STree.entriesNodup, Bool.and_eq_true, decide_eq_true_eq] at hnd
      simp only [STree.entriesReg, Bool.and_eq_true] at hreg
      rw [STree.upTo_node, Except.bind_eq_ok] at h
      obtain ⟨xs, hm, hu⟩ := h
      exact upToL_aligned cfg cs hwl hok.2 hnd.2 hreg.2 hgl t pre (i.childEntries cs.length) hok.1 xs subs
        (matchNode_length (fun h => congrArg List.length (hnone h)) (fun h => (hdict h).1) hm) hu
        ((matchNode_eq_ok.mp hm).steps cfg hrf hreg.1 hnd.1)
theorem upToL_aligned (cfg : Cfg) : ∀ cs : List STree, STree.wfL cs = true → STree.entriesOkL cs = true →
    STree.entriesNodupL cs = true → STree.entriesRegL cs = true → STree.goodL cfg.reg cfg.ns cs = true →
    ∀ (t : PyObj) (pre : List Key) (es : List Key), es.length = cs.length →
    ∀ (xs subs : List PyObj), xs.length = cs.length →
      STree.upToL cfg.reg cfg.noneIsLeaf cfg.ns cs xs = .ok subs →
      (∀ (idx : Nat) (e : Key) (x : PyObj), es[idx]? = some e → xs[idx]? = some x → t.step cfg e = some x) →
      Pairs (Reaches cfg t pre.length) (STree.pathsL cs es pre) subs
  | [], _, _, _, _, _, t, pre, es, _, xs, subs, _, h, _ => by
      simp only [STree.upToL, Except.ok.injEq] at h
      subst h
      simp [STree.pathsL, Pairs.nil]
  | c :: cs, hw, hok, hnd, hreg, hg, t, pre, e :: es, hel, x :: xs, subs, hxl, h, hstep => by
      simp only [STree.wfL, STree.entriesOkL, STree.entriesNodupL, STree.entriesRegL, STree.goodL,
        Bool.and_eq_true] at hw hok hnd hreg hg
      obtain ⟨a', b, ha, hb, rfl⟩ := STree.upToL_cons_ok.mp h
      have hx : t.step cfg e = some x := hstep 0 e x rfl rfl
      -- the paths of `c` start with `pre ++ [e]`, and `e` leads from `t` to `x`
      have h1 : Pairs (Reaches cfg t pre.length) (c.pathsT (pre ++ [e])) a' :=
        (upTo_aligned cfg c hw.1 hok.1 hnd.1 hreg.1 hg.1 x (pre ++ [e]) a' ha).mono fun p hp s hr =>
          reaches_child cfg t x e pre p s hx (STree.pathsT_prefix c (pre ++ [e]) p hp)
            (by rwa [List.length_append] at hr)
      exact h1.append (upToL_aligned cfg cs hw.2 hok.2 hnd.2 hreg.2 hg.2 t pre es (Nat.succ.inj hel) xs b
        (Nat.succ.inj hxl) hb fun idx e' x' he hx' => hstep (idx + 1) e' x' he hx')
  | _ :: _, _, _, _, _, _, _, _, [], hel, _, _, _, _, _ => by cases hel
  | _ :: _, _, _, _, _, _, _, _, _ :: _, _, [], _, hxl, _, _ => by cases hxl
end

theorem customEntries_childEntries_nodup (reg : Reg) (md : Option Key) (n : Nat) :
    ((customInfo reg md n).childEntries n).Nodup := by
  rw [custom_childEntries _ reg n rfl rfl]
  simp only [customEntries]
  cases reg.mode <;> simp [intEntries_nodup, namedEntries_nodup, shiftedEntries_nodup]

theorem STree.entriesRegL_iff (cs : List STree) :
    STree.entriesRegL cs = true ↔ ∀ c ∈ cs, c.entriesReg = true :=
  all_rec_iff rfl (fun _ _ => rfl) cs

def NR (cfg : Cfg) (s : Bool) (t : PyObj) : Prop :=
  (shapeOf cfg s t).entriesNodup = true ∧ (shapeOf cfg s t).entriesReg = true

theorem view_info_entries (cfg : Cfg) (s : Bool) {t : PyObj} (h : t.wf = true) {i : NInfo}
    (hi : (t.view cfg s).info = some i) :
    (i.childEntries (t.view cfg s).kids.length).Nodup ∧ i.entriesFromReg (t.view cfg s).kids.length = true := by
  have hn := PyObj.view_plain cfg s t
  have hk := (view_info_wf cfg s h hi).2.2
  cases hv : t.view cfg s <;>
    simp only [hv, View.info, View.kids, reduceCtorEq, Option.some.injEq] at hn hk hi ⊢ <;> subst hi
  case custom reg md q cs =>
    exact ⟨customEntries_childEntries_nodup reg md cs.length, by simp [NInfo.entriesFromReg, customInfo]⟩
  case node k data ok cs =>
    rw [plainInfo_childEntries hn ok]
    generalize cs.length = n at hn hk
    cases hn <;> simp [defaultEntriesOf, intEntries_nodup, NInfo.entriesFromReg, plainInfo] <;>
      exact (hk rfl).2

/-- In the shape of a well-formed tree the child entries of every node are pairwise distinct (positions, the keys
of a dict, the entries of a well-behaved registration) and custom nodes carry the entries their registration
reports: what `upTo_aligned` asks of a shape holds of every treespec `flatten` makes. -/
theorem nr (cfg : Cfg) (s : Bool) : ∀ t : PyObj, t.wf = true → NR cfg s t := by
  refine shapeOf_induct cfg s (Q := fun _ a => a.entriesNodup = true ∧ a.entriesReg = true)
    (fun _ _ => ⟨rfl, rfl⟩) ?_
  intro t hwf i hi ih
  obtain ⟨h1, h2⟩ := view_info_entries cfg s hwf hi
  have hn := (STree.entriesNodupL_iff _).mpr (List.forall_mem_map.mpr fun c hc => (ih c hc).1)
  have hr := (STree.entriesRegL_iff _).mpr (List.forall_mem_map.mpr fun c hc => (ih c hc).2)
  exact ⟨by simp [STree.entriesNodup, h1, hn], by simp [STree.entriesReg, h2, hr]⟩

theorem nrList (cfg : Cfg) (s : Bool) : ∀ xs : List PyObj, PyObj.wfList xs = true → ∀ x ∈ xs, NR cfg s x :=
  fun _ h x hx => nr cfg s x (PyObj.wfList_mem h x hx)

theorem nrKVs (cfg : Cfg) (s : Bool) : ∀ kvs : List (Key × PyObj), PyObj.wfKVs kvs = true →
    ∀ p ∈ kvs, NR cfg s p.2 :=
  fun _ h p hp => nr cfg s p.2 (PyObj.wfKVs_mem h p hp)

theorem upToL_map {reg : Registry} {nil : Bool} {ns : String} {F : PyObj → STree} {G : PyObj → List PyObj} :
    ∀ cs : List PyObj, (∀ c ∈ cs, (F c).upTo reg nil ns c = .ok (G c)) →
      STree.upToL reg nil ns (cs.map F) cs = .ok (cs.flatMap G)
  | [], _ => rfl
  | c :: cs, h => by
      simp only [List.map_cons, STree.upToL, upToL_map cs (fun c hc => h c (by simp [hc])), h c (by simp),
        List.flatMap_cons]

/-- **Matching a well-formed tree against its own shape returns its leaves, in flatten order** (no predicate):
the record `flatten` writes for a node accepts that node and hands back the children `flatten` visits
(`matchNode_self`). -/
theorem upTo_self (cfg : Cfg) (hp : cfg.pred = Option.none) (s : Bool) : ∀ t : PyObj, t.wf = true →
    (shapeOf cfg s t).upTo cfg.reg cfg.noneIsLeaf cfg.ns t = .ok (leavesOf cfg s t) := by
  have hl : ∀ t, leavesOf cfg s t = match (t.view cfg s).info with
      | Option.none => [t]
      | some _ => (t.view cfg s).kids.flatMap (leavesOf cfg s) := by
    intro t
    rw [leavesOf_view, predTrue_none cfg hp t]
    cases t.view cfg s <;> rfl
  refine shapeOf_induct cfg s (Q := fun t a => a.upTo cfg.reg cfg.noneIsLeaf cfg.ns t = .ok (leavesOf cfg s t))
    (fun t hi => by rw [hl, hi]; rfl) ?_
  intro t hwf i hi ih
  rw [hl, hi, STree.upTo_node, List.length_map, matchNode_self cfg s hwf hi]
  exact upToL_map _ ih

def USelf (cfg : Cfg) (s : Bool) (t : PyObj) : Prop :=
  ∀ d out, flattenGo cfg s d t = .ok out →
    (shapeOf cfg s t).upTo cfg.reg cfg.noneIsLeaf cfg.ns t = .ok out.leaves

/-- `upTo_self` for a run of the engine: the leaves `flatten` collects from a well-formed tree, at any depth, are
what matching the tree against its own shape returns. -/
theorem uself (cfg : Cfg) (hp : cfg.pred = Option.none) (s : Bool) : ∀ t : PyObj, t.wf = true → USelf cfg s t :=
  fun t hwf d out h => lobj cfg s t d out h ▸ upTo_self cfg hp s t hwf

theorem uselfKVs (cfg : Cfg) (hp : cfg.pred = Option.none) (s : Bool) : ∀ kvs : List (Key × PyObj),
    PyObj.wfKVs kvs = true → ∀ p ∈ kvs, USelf cfg s p.2 :=
  fun _ h p hp' => uself cfg hp s p.2 (PyObj.wfKVs_mem h p hp')

/-- **`spec.flatten_up_to(tree)` with the tree's own treespec returns its leaves** -/
theorem flattenUpTo_self (cfg : Cfg) (hp : cfg.pred = Option.none) (t : PyObj) (ht : t.wf = true)
    (ls : List PyObj) (sp : Spec) (h : flatten cfg t = .ok (ls, sp)) (hns : sp.ns = cfg.ns) :
    flattenUpTo cfg.reg sp t = .ok ls := by
  rw [flattenUpTo_of_flatten cfg hp t ht ls sp h, hns]
  obtain ⟨out, ho, rfl, -⟩ := flatten_ok h
  exact uself cfg hp _ t ht 0 out ho

theorem paths_of_flatten (cfg : Cfg) (hp : cfg.pred = Option.none) (t : PyObj) (ht : t.wf = true)
    (ls : List PyObj) (sp : Spec) (h : flatten cfg t = .ok (ls, sp)) :
    paths sp = .ok ((shapeOf cfg (!cfg.insertionOrdered) t).pathsT []) := by
  rw [(flatten_shapeOf cfg hp t ht ls sp h).1]
  exact paths_enc _ (wg cfg _ t ht).1 (eo cfg _ t) _ _

/-- **The i-th sub-tree `flatten_up_to` returns for a tree `r` is the one reached from `r` by the i-th path of the
treespec**, for the treespec of any well-formed tree `t`; nothing is asked of `r`. -/
theorem flattenUpTo_aligned (cfg : Cfg) (hp : cfg.pred = Option.none) (t r : PyObj) (ht : t.wf = true)
    (ls : List PyObj) (sp : Spec) (h : flatten cfg t = .ok (ls, sp)) (hns : sp.ns = cfg.ns)
    (subs : List PyObj) (hs : flattenUpTo cfg.reg sp r = .ok subs) :
    ∃ ps, paths sp = .ok ps ∧ ps.length = subs.length ∧
      ∀ (i : Nat) (p : List Key) (x : PyObj), ps[i]? = some p → subs[i]? = some x →
        PyObj.follow cfg r p = some x := by
  rw [flattenUpTo_of_flatten cfg hp t ht ls sp h, hns] at hs
  obtain ⟨w, g⟩ := wg cfg (!cfg.insertionOrdered) t ht
  obtain ⟨n, e⟩ := nr cfg (!cfg.insertionOrdered) t ht
  have hal := upTo_aligned cfg _ w (eo cfg _ t) n e g r [] subs hs
  exact ⟨_, paths_of_flatten cfg hp t ht ls sp h, hal.length, hal.get⟩

end Optree
