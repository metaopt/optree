/-
  Unflattening with *trees* instead of leaves.

  `PyTreeSpec.unflatten` does not look at what it is given: run over the records of `t` with arbitrary objects
  `xs` in place of the leaves, the stack machine builds a tree `t'` (as in `Lemmas/Replace.lean`).  Here the
  objects are trees themselves: the shape of `t'` is the shape of `t` with its i-th leaf replaced by the shape of
  `xs[i]` (`STree.graftN`), and the leaves of `t'` are the leaves of the `xs[i]`, in order.  This is what
  `tree_transpose` (unflatten the inner treespec with outer-shaped trees) and `tree_broadcast_prefix` (unflatten the
  prefix treespec with replicated subtrees) rely on.  No predicate; in parallel with `robj`.
-/
import OptreeModel.Lemmas.Replace
import OptreeModel.Lemmas.Leaves
import OptreeModel.Lemmas.ShapeOf

namespace Optree

mutual
def STree.graftN : STree → List STree → STree
  | .leaf, xs => xs.headD .leaf
  | .node i cs, xs => .node i (STree.graftNL cs xs)
def STree.graftNL : List STree → List STree → List STree
  | [], _ => []
  | c :: cs, xs => c.graftN (xs.take c.leaves) :: STree.graftNL cs (xs.drop c.leaves)
end

theorem STree.graftNL_length : ∀ (cs xs : List STree), (STree.graftNL cs xs).length = cs.length
  | [], _ => rfl
  | _ :: cs, xs => by simp [STree.graftNL, STree.graftNL_length cs]

mutual
theorem STree.graftN_replicate (b : STree) : ∀ s : STree, s.graftN (List.replicate s.leaves b) = s.subst b
  | .leaf => by simp [STree.graftN, STree.leaves, STree.subst]
  | .node i cs => by
      simp only [STree.graftN, STree.leaves, STree.subst]
      rw [STree.graftNL_replicate b cs]
theorem STree.graftNL_replicate (b : STree) : ∀ cs : List STree,
    STree.graftNL cs (List.replicate (STree.leavesL cs) b) = STree.substL cs b
  | [] => rfl
  | c :: cs => by
      simp only [STree.graftNL, STree.leavesL, STree.substL]
      have h1 : (List.replicate (c.leaves + STree.leavesL cs) b).take c.leaves = List.replicate c.leaves b := by
        simp [List.take_replicate]
      have h2 : (List.replicate (c.leaves + STree.leavesL cs) b).drop c.leaves = List.replicate (STree.leavesL cs) b := by
        simp [List.drop_replicate]
      rw [h1, h2, STree.graftN_replicate b c, STree.graftNL_replicate b cs]
end

/-- what is known of the tree `t'` built from `orig`'s records with the trees `xs` in place of the leaves: its shape
is `orig`'s with the shapes of `xs` grafted on, its leaves are those of `xs` in order, and it is well-formed when
`xs` are -/
def Gpost (cfg : Cfg) (s : Bool) (orig : PyObj) (xs : List PyObj) (t' : PyObj) : Prop :=
  shapeOf cfg s t' = (shapeOf cfg s orig).graftN (xs.map (shapeOf cfg s)) ∧
  leavesOf cfg s t' = xs.flatMap (leavesOf cfg s) ∧
  ((∀ x ∈ xs, x.wf = true) → t'.wf = true)

def Gobj (cfg : Cfg) (s : Bool) (t : PyObj) : Prop :=
  ∀ d out, flattenGo cfg s d t = .ok out → ∀ xs : List PyObj, xs.length = out.leaves.length →
    ∃ t', RT (withLeaves out xs) [t'] ∧ Gpost cfg s t xs t'

def Gkids (cfg : Cfg) (s : Bool) (cs xs ts' : List PyObj) : Prop :=
  ts'.map (shapeOf cfg s) = STree.graftNL (cs.map (shapeOf cfg s)) (xs.map (shapeOf cfg s)) ∧
  ts'.flatMap (leavesOf cfg s) = xs.flatMap (leavesOf cfg s) ∧
  ((∀ x ∈ xs, x.wf = true) → ∀ t ∈ ts', t.wf = true)

theorem Gkids.nil (cfg : Cfg) (s : Bool) : Gkids cfg s [] [] [] := by simp [Gkids, STree.graftNL]

theorem Gkids.cons {cfg : Cfg} {s : Bool} {c t' : PyObj} {cs xs ys ts' : List PyObj}
    (hsz : xs.length = (shapeOf cfg s c).leaves) (g : Gpost cfg s c xs t') (q : Gkids cfg s cs ys ts') :
    Gkids cfg s (c :: cs) (xs ++ ys) (t' :: ts') := by
  obtain ⟨g1, g2, g3⟩ := g
  obtain ⟨q1, q2, q3⟩ := q
  refine ⟨?_, ?_, fun hw t ht => ?_⟩
  · have hsz' : (xs.map (shapeOf cfg s)).length = (shapeOf cfg s c).leaves := by simpa using hsz
    simp only [List.map_cons, List.map_append, STree.graftNL, ← hsz', List.take_left', List.drop_left', g1, q1]
  · simp only [List.flatMap_cons, List.flatMap_append, g2, q2]
  · rcases List.mem_cons.mp ht with rfl | ht
    · exact g3 fun x hx => hw x (by simp [hx])
    · exact q3 (fun x hx => hw x (by simp [hx])) t ht

/-- One node of the grafting argument, as `R_closeSeq` with trees in place of the replacement leaves: the rebuilt
children `ts'` carry `Gpost` for the pieces of `xs` cut along the children's leaf counts (`Gkids`). -/
theorem G_closeSeq (cfg : Cfg) (s : Bool) {f : PyObj → Except Err FlatOut} {cs : List PyObj}
    (ih : ∀ c ∈ cs, ∀ o, f c = .ok o → o.leaves.length = (shapeOf cfg s c).leaves ∧
      ∀ xs : List PyObj, xs.length = o.leaves.length → ∃ t', RT (withLeaves o xs) [t'] ∧ Gpost cfg s c xs t')
    (kind : Kind) (data : NodeData) (entries : Option (List Key)) (custom : Option Reg)
    (okeys : Option (List Key)) (fc : Bool) (out : FlatOut)
    (hout : (match seqOuts (cs.map f) with
             | .error e => Except.error e
             | .ok b => .ok (b.close kind cs.length data entries custom okeys fc)) = .ok out)
    (xs : List PyObj) (hl : xs.length = out.leaves.length) :
    ∃ ts', ts'.length = cs.length ∧
      (∀ t', (∀ nl nn, makeNode (Node.mk kind cs.length data entries custom nl nn okeys) ts' = .ok t') →
        RT (withLeaves out xs) [t']) ∧
      Gkids cfg s cs xs ts' := by
  obtain ⟨b, hb, rfl⟩ := seqClose_ok hout
  obtain ⟨ts', len, rt, q⟩ := seqOuts_withLeaves (L := fun _ => True)
    (Post := fun c o xs t' => o.leaves.length = (shapeOf cfg s c).leaves ∧ Gpost cfg s c xs t')
    (Q := fun cs _ xs ts' => Gkids cfg s cs xs ts') (Gkids.nil cfg s)
    (fun _ _ _ _ _ _ _ _ hx p q => Gkids.cons (hx.trans p.1) p.2 q)
    (fun c hc o ho xs hl _ =>
      let ⟨hsz, g⟩ := ih c hc o ho
      let ⟨t', rt, gp⟩ := g xs hl
      ⟨t', rt, hsz, gp⟩)
    hb xs hl (fun _ _ => trivial)
  exact ⟨ts', len, RT_close_withLeaves rt hl len kind data entries custom okeys fc, q⟩

theorem gobj_leaflike (cfg : Cfg) (s : Bool) (t : PyObj) (hs : shapeOf cfg s t = .leaf) (xs : List PyObj)
    (hl : xs.length = (leafOut t).leaves.length) :
    ∃ t', RT (withLeaves (leafOut t) xs) [t'] ∧ Gpost cfg s t xs t' := by
  match xs, hl with
  | [x], _ => exact ⟨x, RT_leaf x, by simp [hs, STree.graftN], by simp, fun hw => hw x (by simp)⟩
  | [], hl => simp [leafOut] at hl
  | _ :: _ :: _, hl => simp [leafOut] at hl

/-- `unflatten` given trees for leaves, at any subtree (no predicate): run over the records `flattenGo` returned
for a well-formed `t` with any objects `xs`, one per leaf, the machine pushes a tree whose shape is that of `t`
with the i-th leaf replaced by the shape of `xs[i]`, and whose leaves are those of the `xs[i]` in order (`Gpost`). -/
theorem gobj (cfg : Cfg) (hreg : cfg.reg.OK) (hp : cfg.pred = Option.none) (s : Bool) (t : PyObj) :
    t.wf = true → Gobj cfg s t := by
  induction t using PyObj.view_induct cfg s with | _ t ih
  intro hwf d out h xs hl
  obtain ⟨-, ⟨hpt, -⟩ | ⟨-, h⟩⟩ := flattenGo_ok h
  · rw [evalPred_none cfg hp] at hpt; cases hpt
  -- `sh`: a child returns as many leaves as its shape has; `Gkids.cons` cuts `xs` along these counts
  have ih := fun c hc o (ho : flattenGo cfg s (d + 1) c = .ok o) =>
    have hw := PyObj.wf_kids cfg s hwf c hc
    And.intro (sh cfg hp s c hw (d + 1) o ho).2 (ih c hc hw (d + 1) o ho)
  have hw := PyObj.wf_iff_view cfg s t
  have hrb := rebuild_view cfg s t hwf
  have hsh := shapeOf_view cfg s t
  cases hv : t.view cfg s <;> simp only [hv, View.kids] at h ih hw hrb hsh
  case leaf => cases h; exact gobj_leaflike cfg s t hsh xs hl
  case node k data ok cs =>
    obtain ⟨ts', len, rt, q1, q2, q3⟩ :=
      G_closeSeq cfg s ih k data Option.none Option.none ok false out h xs hl
    obtain ⟨t', hmk, hview⟩ := hrb ts' len
    have hw' := PyObj.wf_iff_view cfg s t'
    rw [hview] at hw'
    refine ⟨t', rt t' hmk, ?_, ?_, fun hx => hw'.mpr ⟨len ▸ (hw.mp hwf).1, q3 hx⟩⟩
    · rw [shapeOf_view, hview, hsh]; simp only [STree.graftN, q1]
    · rw [leavesOf_view, predTrue_none cfg hp, hview]; exact q2
  case custom reg md q cs =>
    obtain rfl := (hw.mp hwf).1
    rw [customFlatten_regEntries reg md cs _ (List.length_map _)] at h
    obtain ⟨ts', len, rt, q1, q2, q3⟩ := G_closeSeq cfg s ih .custom (.md md) (customEntries reg cs.length)
      (some reg) Option.none true out h xs hl
    have hview := (customUnflatten_view hreg hv).1 ts'
    have hw' := PyObj.wf_iff_view cfg s (customUnflatten reg md ts')
    rw [hview] at hw'
    refine ⟨customUnflatten reg md ts', rt _ (fun nl nn => by simp [makeNode, len]), ?_, ?_,
      fun hx => hw'.mpr ⟨rfl, q3 hx⟩⟩
    · rw [shapeOf_view, hview, hsh]; simp only [STree.graftN, q1, len]
    · rw [leavesOf_view, predTrue_none cfg hp, hview]; exact q2

theorem gkvs (cfg : Cfg) (hreg : cfg.reg.OK) (hp : cfg.pred = Option.none) (s : Bool) :
    ∀ kvs : List (Key × PyObj), PyObj.wfKVs kvs = true → ∀ p ∈ kvs, Gobj cfg s p.2 :=
  fun _ h p hp' => gobj cfg hreg hp s p.2 (PyObj.wfKVs_mem h p hp')

/-- an object that the reference functions treat as one leaf (every leaf of a well-formed tree is: `leafLike_of_mem`);
the shape-level counterpart of `LeafObj` (Replace.lean), which speaks of `flattenGo` -/
def LeafLike (cfg : Cfg) (s : Bool) (p : PyObj) : Prop :=
  shapeOf cfg s p = .leaf ∧ leavesOf cfg s p = [p] ∧ p.wf = true

theorem leafLike_of_mem (cfg : Cfg) (hp : cfg.pred = Option.none) (s : Bool) :
    ∀ t : PyObj, t.wf = true → ∀ p ∈ leavesOf cfg s t, LeafLike cfg s p := by
  intro t
  induction t using PyObj.view_induct cfg s with | _ t ih
  intro hw p h
  have hk := PyObj.wf_kids cfg s hw
  rw [leavesOf_view, predTrue_none cfg hp] at h
  cases hv : t.view cfg s <;>
    simp only [hv, View.kids, Bool.false_eq_true, if_false, List.mem_flatMap, List.mem_singleton] at h ih hk
  case leaf =>
    subst h
    exact ⟨by rw [shapeOf_view, hv], by rw [leavesOf_view, predTrue_none cfg hp, hv]; rfl, hw⟩
  all_goals
    obtain ⟨c, hc, hpc⟩ := h
    exact ih c hc (hk c hc) p hpc

theorem leafLike_list (cfg : Cfg) (hp : cfg.pred = Option.none) (s : Bool) :
    ∀ xs : List PyObj, PyObj.wfList xs = true → ∀ p ∈ leavesOfList cfg s xs, LeafLike cfg s p := by
  intro xs hw p h
  rw [leavesOfList_eq, ← List.flatMap_def] at h
  obtain ⟨x, hx, hpx⟩ := List.mem_flatMap.mp h
  exact leafLike_of_mem cfg hp s x (PyObj.wfList_mem hw x hx) p hpx

theorem leafLike_kvs (cfg : Cfg) (hp : cfg.pred = Option.none) (s : Bool) :
    ∀ kvs : List (Key × PyObj), PyObj.wfKVs kvs = true → ∀ q ∈ kvs, ∀ p ∈ leavesOf cfg s q.2, LeafLike cfg s p :=
  fun _ hw q hq => leafLike_of_mem cfg hp s q.2 (PyObj.wfKVs_mem hw q hq)

mutual
theorem STree.graftN_leaves : ∀ (s : STree) (xs : List STree), xs.length = s.leaves → (∀ x ∈ xs, x = .leaf) →
    s.graftN xs = s
  | .leaf, xs, hl, h => by
      match xs, hl with
      | [x], _ => simp [STree.graftN, h x (by simp)]
  | .node i cs, xs, hl, h => by
      simp only [STree.graftN, STree.leaves] at hl ⊢
      rw [STree.graftNL_leaves cs xs hl h]
theorem STree.graftNL_leaves : ∀ (cs : List STree) (xs : List STree), xs.length = STree.leavesL cs →
    (∀ x ∈ xs, x = .leaf) → STree.graftNL cs xs = cs
  | [], _, _, _ => rfl
  | c :: cs, xs, hl, h => by
      simp only [STree.leavesL] at hl
      simp only [STree.graftNL]
      rw [STree.graftN_leaves c (xs.take c.leaves) (List.length_take_of_le (hl ▸ Nat.le_add_right ..))
        (fun x hx => h x (List.mem_of_mem_take hx)),
        STree.graftNL_leaves cs (xs.drop c.leaves) (by rw [List.length_drop, hl, Nat.add_sub_cancel_left])
        (fun x hx => h x (List.mem_of_mem_drop hx))]
end

/-- **`unflatten` with arbitrary objects**: a treespec made by `flatten` (no predicate) accepts any `n` objects in place
of its `n` leaves and builds a tree whose shape is the original shape with the i-th leaf replaced by the shape of
the i-th object, and whose leaves are the leaves of the objects in order -/
theorem unflatten_graft (cfg : Cfg) (hreg : cfg.reg.OK) (hp : cfg.pred = Option.none) (t : PyObj)
    (hwf : t.wf = true) (ls : List PyObj) (sp : Spec) (h : flatten cfg t = .ok (ls, sp))
    (xs : List PyObj) (hl : xs.length = ls.length) :
    ∃ t', unflatten sp xs = .ok t' ∧ Gpost cfg (!cfg.insertionOrdered) t xs t' := by
  obtain ⟨out, hout, rfl, rfl⟩ := flatten_ok h
  obtain ⟨t', rt, g⟩ := gobj cfg hreg hp _ t hwf 0 out hout xs hl
  exact ⟨t', rt.unflatten rfl (flattenGo_sane cfg _ 0 t out hout _ _).1, g⟩

/-- unflattening the treespec of `t` with leaf-like objects gives a tree of the shape of `t` whose leaves they are -/
theorem unflatten_leafLike (cfg : Cfg) (hreg : cfg.reg.OK) (hp : cfg.pred = Option.none) (t : PyObj)
    (hwf : t.wf = true) (ls : List PyObj) (sp : Spec) (h : flatten cfg t = .ok (ls, sp))
    (xs : List PyObj) (hl : xs.length = ls.length) (hx : ∀ x ∈ xs, LeafLike cfg (!cfg.insertionOrdered) x) :
    ∃ t', unflatten sp xs = .ok t' ∧
      shapeOf cfg (!cfg.insertionOrdered) t' = shapeOf cfg (!cfg.insertionOrdered) t ∧
      leavesOf cfg (!cfg.insertionOrdered) t' = xs := by
  obtain ⟨t', hu, g1, g2, -⟩ := unflatten_graft cfg hreg hp t hwf ls sp h xs hl
  refine ⟨t', hu, ?_, ?_⟩
  · rw [g1]
    refine STree.graftN_leaves _ _ ?_ fun s hs => ?_
    · rw [List.length_map, hl, (flatten_shapeOf cfg hp t hwf ls sp h).2]
    · obtain ⟨x, hx', rfl⟩ := List.mem_map.mp hs
      exact (hx x hx').1
  · rw [g2, List.flatMap_def, List.map_congr_left fun x hx' => (hx x hx').2.1, ← List.flatMap_def,
      List.flatMap_singleton']

end Optree
