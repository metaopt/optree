/-
  Callback programs (Model/Fault.lean): how `Prog.run` goes through `ret`, `err`, `call` and `bind` under an oracle and
  an optional fault at the `kf`-th call (`Prog.run_fault`: the fault is hit exactly when the fault-free run makes more
  than `kf` calls), and the denotation `Prog.den` of a program under a fault-free oracle.  Nothing here is about
  `flatten`; Properties/C15.lean applies it to `flattenGoC`.
-/
import OptreeModel.Model.Fault

namespace Optree

def Oracle.answer (ω : Oracle) : Option (Nat × Err) → Nat → Call → Except Err Resp
  | some (kf, e), n, c => if n = kf then .error e else ω c
  | Option.none, _, c => ω c

@[simp] theorem Prog.run_ret {α : Type} (ω : Oracle) (f : Option (Nat × Err)) (n : Nat) (a : α) :
    (Prog.ret a).run ω f n = (.ok a, n) := by cases f <;> rfl

@[simp] theorem Prog.run_err {α : Type} (ω : Oracle) (f : Option (Nat × Err)) (n : Nat) (e : Err) :
    (Prog.err e : Prog α).run ω f n = (.error e, n) := by cases f <;> rfl

theorem Prog.run_call {α : Type} (ω : Oracle) (f : Option (Nat × Err)) (n : Nat) (c : Call)
    (k : Resp → Prog α) :
    (Prog.call c k).run ω f n =
      match ω.answer f n c with
      | .error e => (.error e, n + 1)
      | .ok r => (k r).run ω f (n + 1) := by
  cases f with
  | none => rw [Prog.run]; rfl
  | some f =>
    obtain ⟨kf, e⟩ := f
    rw [Prog.run, Oracle.answer]
    split <;> rfl

theorem Prog.run_mono {α : Type} (ω : Oracle) (fault : Option (Nat × Err)) (p : Prog α) :
    ∀ n, n ≤ (p.run ω fault n).2 := by
  induction p with
  | ret a => intro n; simp
  | err e => intro n; simp
  | call c k ih =>
    intro n
    rw [Prog.run_call]
    cases ω.answer fault n c with
    | error e => exact Nat.le_succ n
    | ok r => exact Nat.le_of_succ_le (ih r (n + 1))

/-- a fault at index `kf` cuts the run exactly when `kf` is in the window of invocations the fault-free run
from the same counter `n` makes -/
theorem Prog.run_fault {α : Type} (ω : Oracle) (kf : Nat) (e : Err) (p : Prog α) :
    ∀ n, p.run ω (some (kf, e)) n =
      if n ≤ kf ∧ kf < (p.run ω Option.none n).2 then (.error e, kf + 1) else p.run ω Option.none n := by
  induction p with
  -- a program that makes no invocation has an empty window
  | ret a =>
    intro n
    rw [Prog.run_ret, Prog.run_ret, if_neg fun h => Nat.lt_irrefl n (Nat.lt_of_le_of_lt h.1 h.2)]
  | err e' =>
    intro n
    rw [Prog.run_err, Prog.run_err, if_neg fun h => Nat.lt_irrefl n (Nat.lt_of_le_of_lt h.1 h.2)]
  | call c k ih =>
    intro n
    by_cases hn : n = kf
    · -- the fault-free run makes invocation `n`, so it ends above `n`
      have hm : n < ((Prog.call c k).run ω Option.none n).2 := by
        rw [Prog.run_call]
        cases ω.answer Option.none n c with
        | error e' => exact Nat.lt_succ_self n
        | ok r => exact Prog.run_mono ω Option.none (k r) (n + 1)
      subst hn
      rw [Prog.run_call, Oracle.answer, if_pos rfl, if_pos ⟨Nat.le_refl n, hm⟩]
    · -- invocation `n` is answered by the oracle in both runs; what is left of the window starts at `n + 1`
      have hw : ∀ m, n ≤ kf ∧ kf < m ↔ n + 1 ≤ kf ∧ kf < m := fun m =>
        and_congr_left' ⟨fun h => Nat.lt_of_le_of_ne h hn, Nat.le_of_lt⟩
      rw [Prog.run_call, Prog.run_call, Oracle.answer, if_neg hn, Oracle.answer]
      cases ω c with
      | error e' => exact (if_neg fun h => hn (Nat.le_antisymm h.1 (Nat.le_of_lt_succ h.2))).symm
      | ok r => exact (ih r (n + 1)).trans (by simp only [hw])

theorem Prog.run_bind {α β : Type} (ω : Oracle) (fault : Option (Nat × Err)) (p : Prog α)
    (f : α → Prog β) : ∀ n,
    (p.bind f).run ω fault n =
      match p.run ω fault n with
      | (.ok a, m) => (f a).run ω fault m
      | (.error e, m) => (.error e, m) := by
  induction p with
  | ret a => intro n; simp [Prog.bind]
  | err e => intro n; simp [Prog.bind]
  | call c k ih =>
    intro n
    rw [Prog.bind, Prog.run_call, Prog.run_call]
    cases ω.answer fault n c with
    | error e => rfl
    | ok r => exact ih r (n + 1)

/-- outcome of a fault-free run (the starting value of the invocation counter is immaterial) -/
def Prog.den {α : Type} (ω : Oracle) (p : Prog α) : Except Err α := (p.run ω Option.none 0).1

theorem Prog.run_none_fst {α : Type} (ω : Oracle) (p : Prog α) :
    ∀ n, (p.run ω Option.none n).1 = p.den ω := by
  induction p with
  | ret a => intro n; simp [Prog.den]
  | err e => intro n; simp [Prog.den]
  | call c k ih =>
    intro n
    unfold Prog.den
    rw [Prog.run_call, Prog.run_call, Oracle.answer, Oracle.answer]
    cases ω c with
    | error e' => rfl
    | ok r => exact (ih r (n + 1)).trans (ih r (0 + 1)).symm

theorem Prog.den_call {α : Type} (ω : Oracle) (c : Call) (k : Resp → Prog α) :
    (Prog.call c k).den ω = match ω c with
      | .error e => .error e
      | .ok r => (k r).den ω := by
  unfold Prog.den
  rw [Prog.run_call, Oracle.answer]
  cases ω c with
  | error e => rfl
  | ok r => exact Prog.run_none_fst ω (k r) 1

@[simp] theorem Prog.den_ret {α : Type} (ω : Oracle) (a : α) : (Prog.ret a).den ω = .ok a := by
  simp [Prog.den]

@[simp] theorem Prog.den_err {α : Type} (ω : Oracle) (e : Err) :
    (Prog.err e : Prog α).den ω = .error e := by
  simp [Prog.den]

theorem Prog.den_bind {α β : Type} (ω : Oracle) (p : Prog α) (f : α → Prog β) :
    (p.bind f).den ω = match p.den ω with
      | .ok a => (f a).den ω
      | .error e => .error e := by
  unfold Prog.den
  rw [Prog.run_bind]
  generalize hp : p.run ω Option.none 0 = r
  obtain ⟨r1, m⟩ := r
  cases r1 with
  | error e => rfl
  | ok a => simp only; exact Prog.run_none_fst ω (f a) m

end Optree
